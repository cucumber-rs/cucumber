import Cuke.Lemmas.SchedOrder
/-!
  C03 / C08, an ORDER clause over whole runs: once `execute` has taken its exit (`is_finished` was true: the label
  `idle true _`), no scenario event is sent any more — so the Finished brackets `finish_all_rules_and_features` emits
  there, and run-Finished, come after every scenario event. For every log replayed without any disagreement.
-/
namespace Cuke.SchedExit
open Cuke List Cuke.SchedL Cuke.SchedInv Cuke.SchedOrd Cuke.SchedCons Cuke.SchedStep

def Exiting (s : SState) : Prop :=
  (s.phase = .exiting ∨ s.phase = .exited) ∧ s.running = [] ∧ s.batch = []

theorem idle_good {c : SCfg} {s : SState} {fin sl : Bool} (hg : Good (stepL c s (.idle fin sl)) = true) :
    s.phase = .afterGet2 ∧ ((s.running = [] ∧ s.endedUnconsumed = 0) ∧ s.batch = []) ∧
      fin = isFinished s.parserDone s.slots.isBrk s.q := by
  rw [good_step, Bool.and_eq_true] at hg
  simpa [fails, kiq, -all_eq_true] using hg.2

theorem idle_true_exiting (c : SCfg) (s : SState) (sl : Bool) (hg : Good (stepL c s (.idle true sl)) = true) :
    Exiting (stepL c s (.idle true sl)) := by
  obtain ⟨-, ⟨⟨hr, -⟩, hb⟩, -⟩ := idle_good hg
  rw [stepL_eq]
  exact ⟨Or.inl rfl, hr, hb⟩

theorem exiting_step (c : SCfg) (s : SState) (l : Label) (h : Exiting s) (hc : Clean0 (stepL c s l) = true) :
    Exiting (stepL c s l) ∧ ∀ k ret se, l ≠ .tx (.scen k ret se) := by
  obtain ⟨hp, hr, hb⟩ := h
  have htx : ∀ k ret se, l ≠ .tx (.scen k ret se) := by
    rintro k ret se rfl
    obtain ⟨e0, he0, -⟩ := tx_scen_clean hc
    rw [hr] at he0
    cases he0
  refine ⟨?_, htx⟩
  obtain ⟨-, hf, e⟩ := clean_step (clean0_iff.mp hc)
  rw [e]
  -- every label of the loop is checked against a phase of the loop
  have hph : ∀ p, s.phase = p → p = .exiting ∨ p = .exited := fun p e => e ▸ hp
  cases l
  case get2 => rcases hp with hp | hp <;> simp [fails, get2Early, hp] at hf
  case endA => simp [fails, hr] at hf
  all_goals simp [fails] at hf
  all_goals simp only [stepD, Exiting]
  case hookTake => exact absurd (hph _ hf) (by decide)
  case exit => exact ⟨Or.inr trivial, hr, hb⟩
  case get1 => rcases hf.1 with h | h <;> exact absurd (hph _ h) (by decide)
  case idle => exact absurd (hph _ hf.1) (by decide)
  case idleYield => exact absurd (hph _ hf.1) (by decide)
  case idleSlept => exact absurd (hph _ hf.1) (by decide)
  case idleContinue => rcases hf.1 with h | h <;> exact absurd (hph _ h) (by decide)
  case disp => exact absurd (hph _ hf.1) (by decide)
  case cons => exact absurd (hph _ hf.1) (by decide)
  case notif => exact absurd (hph _ hf.1) (by decide)
  case brk => exact absurd (hph _ hf.1) (by decide)
  all_goals exact ⟨hp, hr, hb⟩

theorem exiting_run (c : SCfg) (post : List Label) (s : SState) (h : Exiting s)
    (hc : Clean0 (post.foldl (stepL c) s) = true) : ∀ k ret se, Label.tx (.scen k ret se) ∉ post := fun k ret se hm =>
  (clean0_run c Exiting (fun l => ∀ k ret se, l ≠ .tx (.scen k ret se))
    (fun s l h hd => exiting_step c s l h (clean0_iff.mpr hd)) post s h hc).2 _ hm k ret se rfl

theorem exit_is_final (c : SCfg) (pre post : List Label) (sl : Bool)
    (hc : Clean0 (accept c (pre ++ [.idle true sl] ++ post)) = true) : ∀ k ret se, Label.tx (.scen k ret se) ∉ post := by
  rw [accept_append, accept_snoc] at hc
  exact exiting_run c post _ (idle_true_exiting c _ sl (clean0_all _ (clean0_foldl_mono c post _ hc)).1) hc

end Cuke.SchedExit
