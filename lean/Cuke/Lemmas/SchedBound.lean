import Cuke.Lemmas.SchedCount
import Cuke.Lemmas.SchedSpin
/-!
  C04: every attempt that ended was dispatched — `#END + #in flight = #dispatched` in every clean run — so the number of
  ended attempts is bounded by the dispatch log, which `C04.lts_total_attempts_bounded` bounds before the run starts.
-/
namespace Cuke.SchedBound
open Cuke List Cuke.SchedL Cuke.SchedInv Cuke.SchedOrd Cuke.SchedCons Cuke.SchedSeq Cuke.SchedCount Cuke.SchedSpin
  Cuke.SchedStep

theorem len_step (c : SCfg) (s : SState) (l : Label) (d : List (Nat × Nat)) (n : Nat)
    (h : n + s.running.length = d.length) (hd : (stepL c s l).dis = []) :
    (n + (if isEndA l then 1 else 0)) + (stepL c s l).running.length = (dstep s d l).length := by
  obtain ⟨-, hf, e⟩ := clean_step hd
  rw [e]
  cases l
  case disp =>
    simp only [stepD, dstep, isEndA, length_append, length_map, Bool.false_eq_true, if_false]
    omega
  case endA i failed retried t =>
    -- the attempt was in flight (otherwise class A)
    cases hfd : s.running.find? (fun e => e.id == i) with
    | none => simp [fails, hfd] at hf
    | some x =>
      have := length_eraseP_of_find _ _ _ hfd
      simp only [stepD, dstep, isEndA, if_true]
      omega
  all_goals simpa [stepD, dstep, isEndA] using h

theorem dispatched_snoc (c : SCfg) (pre : List Label) (l : Label) :
    dispatched c (pre ++ [l]) = dstep (accept c pre) (dispatched c pre) l := by
  have hb : (runD c pre ({}, [], ([], []))).1.base = accept c pre := by rw [runD_state]; exact acceptN_base c pre
  rw [← hb]
  simp only [dispatched, runD, foldl_append, foldl_cons, foldl_nil]

theorem ended_le_dispatched (c : SCfg) (ls : List Label) (hc : NClean (acceptN c ls) = true) :
    ls.countP isEndA + (accept c ls).running.length = (dispatched c ls).length := by
  have hc0 : Clean0 (accept c ls) = true := by
    simp only [NClean, Bool.and_eq_true, acceptN_base] at hc
    exact hc.1
  exact (clean0_accept c
    (fun pre s => s = accept c pre ∧ pre.countP isEndA + s.running.length = (dispatched c pre).length) ⟨rfl, rfl⟩
    (fun pre s l h hd => by
      obtain ⟨rfl, h⟩ := h
      refine ⟨(accept_snoc c pre l).symm, ?_⟩
      rw [dispatched_snoc, countP_append, countP_singleton]
      exact len_step c _ l _ _ h hd) ls hc0).2

end Cuke.SchedBound
