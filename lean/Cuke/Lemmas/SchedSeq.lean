import Cuke.Lemmas.SchedOrder
import Cuke.Model.SchedSeq
/-!
  C05 over whole runs of the layered acceptor `stepN` (Model/SchedSeq.lean): **attempts of one scenario never
  overlap**. For every log replayed without a disagreement of either layer, at every moment:

  * the scenarios of the attempts in flight are pairwise distinct (`Rs` has no duplicates);
  * a scenario has at most one entry waiting in the queues / the batch handed out by `get`;
  * a scenario has a waiting entry AND an attempt in flight only between the `INS` of the successor and the
    `END` of that attempt (`reins`), and the successor is not dispatched before that `END`.

  The proof re-uses the conservation invariant `CInv` of Lemmas/SchedConserve.lean as a black box: it yields, for
  `INS` and `GET2`, how the multiset of scenario ids held by the scheduler changes.
-/
namespace Cuke.SchedSeq
open Cuke List Cuke.SchedL Cuke.SchedInv Cuke.SchedRetry Cuke.SchedCons Cuke.SchedOrd

theorem stepN_base (c : SCfg) (n : NState) (l : Label) : (stepN c n l).base = stepL c n.base l := by
  unfold stepN
  simp only
  repeat' split
  all_goals simp [NState.note]

theorem foldl_base (c : SCfg) (ls : List Label) (n : NState) :
    (ls.foldl (stepN c) n).base = ls.foldl (stepL c) n.base := by
  induction ls generalizing n with
  | nil => rfl
  | cons l rest ih => simp only [foldl_cons]; rw [ih, stepN_base]

theorem acceptN_base (c : SCfg) (ls : List Label) : (acceptN c ls).base = accept c ls := foldl_base c ls {}

def NClean (n : NState) : Bool := Clean0 n.base && n.ndis.isEmpty

theorem stepN_simple (c : SCfg) (n : NState) (l : Label)
    (h1 : ∀ f, l ≠ .pOk f) (h2 : ∀ t a b, l ≠ .ins t a b) (h3 : ∀ i f r t, l ≠ .endA i f r t) (h4 : ∀ k sl, l ≠ .disp k sl) :
    (stepN c n l).reins = n.reins ∧ (stepN c n l).delivered = n.delivered := by
  cases l with
  | pOk f => exact absurd rfl (h1 f)
  | ins t a b => exact absurd rfl (h2 t a b)
  | endA i f r t => exact absurd rfl (h3 i f r t)
  | disp k sl => exact absurd rfl (h4 k sl)
  | _ => exact ⟨rfl, rfl⟩

def scenIds (ft : SFeat) : List Nat := (featScenarios ft).map (·.2.id)

/-- well-formed catalog: scenario ids are distinct inside a feature and features do not share scenario ids -/
structure WF (c : SCfg) : Prop where
  nodup : ∀ ft ∈ c.feats, (scenIds ft).Nodup
  disj : ∀ ft ∈ c.feats, ∀ ft' ∈ c.feats, ∀ x ∈ scenIds ft, x ∈ scenIds ft' → ft.id = ft'.id
  ids : ∀ ft ∈ c.feats, ∀ ft' ∈ c.feats, ft.id = ft'.id → ft = ft'

theorem WF.single {c : SCfg} {ft : SFeat} (hc : c.feats = [ft]) (hnd : (scenIds ft).Nodup) : WF c := by
  have h1 : ∀ a ∈ c.feats, a = ft := fun a ha => mem_singleton.mp (hc ▸ ha)
  exact ⟨fun a ha => h1 a ha ▸ hnd, fun a ha b hb _ _ _ => by rw [h1 a ha, h1 b hb],
    fun a ha b hb _ => by rw [h1 a ha, h1 b hb]⟩

def Qs (s : SState) : List Nat := scens (s.q.serial ++ s.q.conc ++ s.batch)
def Rs (s : SState) : List Nat := scens s.running

section
open Cuke.SchedStep

/-! ## the second layer, split like the first: what a label records, and the check it makes -/

def stepND (c : SCfg) (n : NState) : Label → NState
  | .pOk f => { n with base := stepD c n.base (.pOk f), delivered := f :: n.delivered }
  | .ins t ps pc =>
    { n with base := stepD c n.base (.ins t ps pc),
             reins := (retryParent n.base ps pc).elim n.reins fun e => e.key.scen :: n.reins }
  | .endA id failed retried t =>
    { n with base := stepD c n.base (.endA id failed retried t),
             reins := (n.base.running.find? fun e => e.id == id).elim n.reins fun e => n.reins.erase e.key.scen }
  | l => { n with base := stepD c n.base l }

def okN (n : NState) : Label → Bool
  | .pOk f => !n.delivered.contains f
  | .ins _ ps pc => (retryParent n.base ps pc).all fun e => !n.reins.contains e.key.scen
  | .endA id _ retried _ =>
    (n.base.running.find? fun e => e.id == id).all fun e => retried == n.reins.contains e.key.scen
  | .disp _ _ => !overlaps n.base.batch n.base.running
  | _ => true

theorem nclean_step {c : SCfg} {n : NState} {l : Label} (h : NClean (stepN c n l) = true) :
    NClean n = true ∧ fails c n.base l = [] ∧ okN n l = true ∧ stepN c n l = stepND c n l := by
  simp only [NClean, Clean0, Bool.and_eq_true, isEmpty_iff, stepN_base] at h ⊢
  obtain ⟨hs, hf, e⟩ := clean_step h.1
  have hn := h.2
  suffices n.ndis = [] ∧ okN n l = true ∧ stepN c n l = stepND c n l from ⟨⟨hs, this.1⟩, hf, this.2⟩
  cases l
  case pOk f =>
    simp only [stepN, okN, stepND, e] at hn ⊢
    split at hn
    · simp [NState.note] at hn
    · rename_i hg
      exact ⟨hn, by simpa using hg, if_neg hg⟩
  case ins t ps pc =>
    rcases hp : retryParent n.base ps pc with _ | e0
    · simp only [stepN, okN, stepND, hp, e] at hn ⊢
      exact ⟨hn, rfl, rfl⟩
    · simp only [stepN, okN, stepND, hp, e] at hn ⊢
      split at hn
      · simp [NState.note] at hn
      · rename_i hg
        exact ⟨hn, by simpa using hg, if_neg hg⟩
  case endA id failed retried t =>
    rcases hp : n.base.running.find? (fun e => e.id == id) with _ | e0
    · simp only [stepN, okN, stepND, hp, e] at hn ⊢
      exact ⟨hn, rfl, rfl⟩
    · simp only [stepN, okN, stepND, hp, e] at hn ⊢
      split at hn
      · rename_i hg
        exact ⟨hn, hg, if_pos hg⟩
      · simp [NState.note] at hn
  case disp k sl =>
    simp only [stepN, okN, stepND, e] at hn ⊢
    split at hn
    · simp [NState.note] at hn
    · rename_i hg
      exact ⟨hn, by simpa using hg, if_neg hg⟩
  all_goals exact ⟨hn, rfl, by simp only [stepN, stepND, e]⟩

theorem nclean_base {n : NState} (h : NClean n = true) : n.base.dis = [] := by
  simp only [NClean, Clean0, Bool.and_eq_true, isEmpty_iff] at h
  exact h.1

theorem nclean_step_mono (c : SCfg) (n : NState) (l : Label) (h : NClean (stepN c n l) = true) : NClean n = true :=
  (nclean_step h).1

theorem nclean_foldl_mono (c : SCfg) (ls : List Label) (n : NState) (h : NClean (ls.foldl (stepN c) n) = true) :
    NClean n = true :=
  foldl_mono (stepN c) (fun n => NClean n = true) (nclean_step_mono c) ls n h

theorem scens_newEntries (c : SCfg) (ft : SFeat) : scens (newEntries c ft) = scenIds ft := by
  simp [scens, newEntries, scenIds, Function.comp_def]

theorem scenIds_default (f : Nat) : scenIds ⟨f, [], [], []⟩ = [] := by simp [scenIds, featScenarios]

theorem feat?_spec (c : SCfg) (f : Nat) (ft : SFeat) (h : c.feat? f = some ft) : ft ∈ c.feats ∧ ft.id = f := by
  unfold SCfg.feat? at h
  refine ⟨mem_of_find?_eq_some h, ?_⟩
  have := find?_some h
  simpa using this

theorem mem_pending {c : SCfg} {f x : Nat} (h : x ∈ scenIds ((c.feat? f).getD ⟨f, [], [], []⟩)) :
    ∃ ft, c.feat? f = some ft ∧ x ∈ scenIds ft := by
  cases hfd : c.feat? f with
  | none => simp [hfd, scenIds_default] at h
  | some ft => exact ⟨ft, rfl, by simpa [hfd] using h⟩

theorem ents_scens (s : SState) : scens (ents s) = Qs s ++ Rs s := by
  simp [ents, Qs, Rs, scens_append, append_assoc]

theorem pending_ids (c : SCfg) (hwf : WF c) (f : Nat) :
    (scenIds ((c.feat? f).getD ⟨f, [], [], []⟩)).Nodup ∧
      ∀ x ∈ scenIds ((c.feat? f).getD ⟨f, [], [], []⟩), ∃ ft ∈ c.feats, ft.id = f ∧ x ∈ scenIds ft := by
  cases hft : c.feat? f with
  | none => simp [scenIds_default]
  | some ft0 =>
    obtain ⟨hm, hid⟩ := feat?_spec c f ft0 hft
    exact ⟨hwf.nodup ft0 hm, fun x hx => ⟨ft0, hm, hid, hx⟩⟩

/-- the feature was delivered and its `INS` has been seen -/
def Settled (delivered : List Nat) (pf : Option Nat) (f : Nat) : Prop := f ∈ delivered ∧ pf ≠ some f

theorem Settled.delivered {dl : List Nat} {pf : Option Nat} {f f' : Nat} (h : Settled dl pf f) (hf : f' ∉ dl)
    (b : Prop) [Decidable b] : Settled (f' :: dl) (if b then some f' else pf) f := by
  refine ⟨mem_cons_of_mem _ h.1, ?_⟩
  split
  · exact fun heq => hf (Option.some.inj heq ▸ h.1)
  · exact h.2

/-- a settled feature stays settled: it is not delivered a second time -/
theorem settled_step {c : SCfg} {n : NState} {l : Label} (hc : NClean (stepN c n l) = true) {f : Nat}
    (h : Settled n.delivered n.base.pendingFeat f) :
    Settled (stepN c n l).delivered (stepN c n l).base.pendingFeat f := by
  obtain ⟨-, -, hk, e⟩ := nclean_step hc
  rw [e]
  cases l
  all_goals simp only [stepND, stepD]
  case pOk f' => exact h.delivered (by simpa [okN] using hk) _
  case ins => exact ⟨h.1, nofun⟩
  all_goals exact h

/-- the lineage invariant, over the scenarios with a waiting entry `Q`, those with an attempt in flight `R`, the second
    layer's `reins` and `delivered`, and the pending feature -/
structure Lineage (c : SCfg) (Q R reins delivered : List Nat) (pf : Option Nat) : Prop where
  qnd : Q.Nodup
  rnd : R.Nodup
  both : ∀ x ∈ Q, x ∈ R → x ∈ reins
  reinsR : ∀ x ∈ reins, x ∈ R
  reinsQ : ∀ x ∈ reins, x ∈ Q
  reinsNd : reins.Nodup
  deliv : ∀ x, x ∈ Q ∨ x ∈ R → ∀ ft ∈ c.feats, x ∈ scenIds ft → Settled delivered pf ft.id
  pend : ∀ f, pf = some f → f ∈ delivered

def NInv (c : SCfg) (n : NState) : Prop :=
  Lineage c (Qs n.base) (Rs n.base) n.reins n.delivered n.base.pendingFeat

theorem ninv_init (c : SCfg) : NInv c {} := by
  refine ⟨?_, ?_, ?_, ?_, ?_, ?_, ?_, ?_⟩ <;> simp [Qs, Rs, scens, Queues.empty]

variable {c : SCfg} {Q Q' R R' re re' dl : List Nat} {pf : Option Nat}

theorem Lineage.perm (h : Lineage c Q R re dl pf) (hQ : Q' ~ Q) : Lineage c Q' R re dl pf :=
  ⟨hQ.nodup_iff.mpr h.qnd, h.rnd, fun x hx => h.both x (hQ.mem_iff.mp hx), h.reinsR,
    fun x hx => hQ.mem_iff.mpr (h.reinsQ x hx), h.reinsNd, fun x hx => h.deliv x (hx.imp_left hQ.mem_iff.mp), h.pend⟩

theorem Lineage.added (h : Lineage c Q R re dl pf) (A : List Nat) (hQ : Q' ~ Q ++ A)
    (hAnd : A.Nodup) (hAQ : ∀ x ∈ A, x ∉ Q) (hAR : ∀ x ∈ A, x ∈ R → x ∈ re')
    (hre : ∀ x ∈ re, x ∈ re') (hre2 : ∀ x ∈ re', x ∈ R) (hre3 : ∀ x ∈ re', x ∈ Q ∨ x ∈ A) (hnd : re'.Nodup)
    (hdel : ∀ x ∈ A, ∀ ft ∈ c.feats, x ∈ scenIds ft → ft.id ∈ dl) : Lineage c Q' R re' dl none := by
  refine ⟨?_, h.rnd, ?_, hre2, fun x hx => hQ.mem_iff.mpr (mem_append.mpr (hre3 x hx)), hnd, ?_, nofun⟩
  · exact hQ.nodup_iff.mpr (nodup_append.mpr ⟨h.qnd, hAnd, fun a ha b hb hab => hAQ b hb (hab ▸ ha)⟩)
  · intro x hx hxr
    rcases mem_append.mp (hQ.mem_iff.mp hx) with hx | hx
    · exact hre x (h.both x hx hxr)
    · exact hAR x hx hxr
  · intro x hx ft hft hxf
    refine ⟨?_, nofun⟩
    rcases hx with hx | hx
    · rcases mem_append.mp (hQ.mem_iff.mp hx) with hx | hx
      · exact (h.deliv x (Or.inl hx) ft hft hxf).1
      · exact hdel x hx ft hft hxf
    · exact (h.deliv x (Or.inr hx) ft hft hxf).1

theorem Lineage.dispatch {A B : List Nat} (h : Lineage c (A ++ B) R re dl pf) (hdis : ∀ x ∈ B, x ∉ R) :
    Lineage c A (R ++ B) re dl pf := by
  obtain ⟨hA, hB, hAB⟩ := nodup_append.mp h.qnd
  refine ⟨hA, nodup_append.mpr ⟨h.rnd, hB, fun a ha b hb hab => hdis b hb (hab ▸ ha)⟩, ?_,
    fun x hx => mem_append_left _ (h.reinsR x hx), ?_, h.reinsNd, ?_, h.pend⟩
  · intro x hx hxr
    rcases mem_append.mp hxr with hxr | hxr
    · exact h.both x (mem_append_left _ hx) hxr
    · exact absurd rfl (hAB x hx x hxr)
  · intro x hx
    rcases mem_append.mp (h.reinsQ x hx) with hxq | hxq
    · exact hxq
    · exact absurd (h.reinsR x hx) (hdis x hxq)
  · intro x hx
    refine h.deliv x ?_
    rcases hx with hx | hx
    · exact Or.inl (mem_append_left _ hx)
    · exact (mem_append.mp hx).elim Or.inr fun hx => Or.inl (mem_append_right _ hx)

theorem Lineage.ended (h : Lineage c Q R re dl pf) (x : Nat) (hR : R ~ x :: R') : Lineage c Q R' (re.erase x) dl pf := by
  obtain ⟨hx, hnd'⟩ := nodup_cons.mp (hR.nodup_iff.mp h.rnd)
  have hsub : ∀ y ∈ R', y ∈ R := fun y hy => hR.mem_iff.mpr (mem_cons_of_mem _ hy)
  refine ⟨h.qnd, hnd', ?_, ?_, fun y hy => h.reinsQ y (mem_of_mem_erase hy), h.reinsNd.erase _,
    fun y hy => h.deliv y (hy.imp_right (hsub y)), h.pend⟩
  · intro y hy hyr
    exact (h.reinsNd.mem_erase_iff).mpr ⟨fun heq => hx (heq ▸ hyr), h.both y hy (hsub y hyr)⟩
  · intro y hy
    obtain ⟨hne, hy'⟩ := (h.reinsNd.mem_erase_iff).mp hy
    exact (mem_cons.mp (hR.mem_iff.mp (h.reinsR y hy'))).resolve_left hne

theorem held_perm (s s' : SState) (g : List Nat × List Nat) (a : List Nat)
    (h : CInv s g) (h' : CInv s' (g.1 ++ a, g.2)) : scens (ents s') ~ scens (ents s) ++ a := by
  have h1 := h.1
  have h2 := h'.1
  have : scens (ents s') ++ g.2 ~ (scens (ents s) ++ a) ++ g.2 := by
    refine h2.symm.trans ?_
    refine (Perm.append_right a h1).trans ?_
    simp only [append_assoc]
    exact Perm.append_left _ perm_append_comm
  exact (perm_append_right_iff _).mp this

theorem waiting_perm {c : SCfg} {s : SState} {g : List Nat × List Nat} {l : Label} (a : List Nat) (hci : CInv s g)
    (hd : (stepL c s l).dis = []) (hg : gstep c s g l = (g.1 ++ a, g.2)) (hR : Rs (stepD c s l) = Rs s) :
    Qs (stepD c s l) ~ Qs s ++ a := by
  have hci' := step_cinv c s g l hci (clean0_all _ (by simpa [Clean0] using hd)).2.2
  rw [(clean_step hd).2.2, hg] at hci'
  have hp := held_perm s _ g a hci hci'
  rw [ents_scens, ents_scens, hR] at hp
  refine (perm_append_right_iff (Rs s)).mp (hp.trans ?_)
  simp only [append_assoc]
  exact Perm.append_left _ perm_append_comm

theorem ins_clean {c : SCfg} {s : SState} {t : Nat} {ps pc : List QE} (hf : insFails c s t ps pc = []) :
    (∃ f, s.pendingFeat = some f ∧ retryParent s ps pc = none ∧
        insAdds c s ps pc = scenIds ((c.feat? f).getD ⟨f, [], [], []⟩)) ∨
    (s.pendingFeat = none ∧ ∃ e ∈ s.running, ∃ o, nextTry e.ret true = some o ∧ retryParent s ps pc = some e ∧
        insAdds c s ps pc = [e.key.scen]) := by
  have ha : (insFails c s t ps pc).all (fun _ => false) = true := by rw [hf]; rfl
  rcases ins_cases rfl rfl ha with ⟨f, hpf, -, -⟩ | ⟨hpf, ser, p, e1, o, hn, hr, ho, -, -⟩
  · exact Or.inl ⟨f, hpf, by simp only [retryParent, hpf], by simp only [insAdds, hpf, scens_newEntries]⟩
  · simp only [insNew] at hn
    exact Or.inr ⟨hpf, e1, mem_of_find?_eq_some hr, o, ho, by simp only [retryParent, hpf, hn, hr],
      by simp only [insAdds, hpf, hn, hr, ho, Option.isSome_some, if_true]⟩

theorem overlaps_false (batch running : List Entry) (h : overlaps batch running = false) :
    ∀ x ∈ scens batch, x ∉ scens running := by
  intro x hx hr
  simp only [scens, mem_map] at hx hr
  obtain ⟨e, he, rfl⟩ := hx
  obtain ⟨r, hr, hre⟩ := hr
  have : overlaps batch running = true := by
    simp only [overlaps, any_eq_true]
    exact ⟨e, he, r, hr, by simp [hre]⟩
  rw [h] at this
  cases this

theorem step_ninv (c : SCfg) (hwf : WF c) (n : NState) (g : List Nat × List Nat) (l : Label) (h : NInv c n)
    (hci : CInv n.base g) (hc : NClean (stepN c n l) = true) : NInv c (stepN c n l) := by
  obtain ⟨-, hf, hk, e⟩ := nclean_step hc
  have hd : (stepL c n.base l).dis = [] := stepN_base c n l ▸ nclean_base hc
  rw [e]
  simp only [NInv, Qs, Rs] at h ⊢
  cases l
  all_goals simp only [stepND, stepD]
  case pOk f =>
    have hfd : f ∉ n.delivered := by simpa [okN] using hk
    refine ⟨h.qnd, h.rnd, h.both, h.reinsR, h.reinsQ, h.reinsNd, fun x hx ft hft hxf => ?_, fun f' hf' => ?_⟩
    · exact (h.deliv x hx ft hft hxf).delivered hfd _
    · split at hf'
      · exact Option.some.inj hf' ▸ mem_cons_self
      · exact mem_cons_of_mem _ (h.pend f' hf')
  case ins t ps pc =>
    have hQ := waiting_perm (insAdds c n.base ps pc) hci hd rfl rfl
    simp only [Qs, stepD] at hQ
    rcases ins_clean hf with ⟨f, hpf, hpar, hadds⟩ | ⟨hpf, e0, hmem, o, ho, hpar, hadds⟩
    · -- the scenarios of the delivered feature: new, and their feature settles
      obtain ⟨hAnd, hA⟩ := pending_ids c hwf f
      rw [hadds] at hQ
      rw [hpar]
      refine h.added _ hQ hAnd ?_ ?_ (fun x hx => hx) h.reinsR (fun x hx => Or.inl (h.reinsQ x hx)) h.reinsNd ?_
      · intro x hx hxq
        obtain ⟨ft0, hm, hid, hx0⟩ := hA x hx
        exact (h.deliv x (Or.inl hxq) ft0 hm hx0).2 (by rw [hpf, hid])
      · intro x hx hxr
        obtain ⟨ft0, hm, hid, hx0⟩ := hA x hx
        exact absurd (by rw [hpf, hid]) (h.deliv x (Or.inr hxr) ft0 hm hx0).2
      · intro x hx ft hft hxf
        obtain ⟨ft0, hm, hid, hx0⟩ := hA x hx
        rw [← hwf.disj ft0 hm ft hft x hx0 hxf, hid]
        exact h.pend f hpf
    · -- the successor of the attempt `e0` in flight
      have hxR : e0.key.scen ∈ scens n.base.running := mem_map_of_mem hmem
      have hnr : e0.key.scen ∉ n.reins := by simpa [okN, hpar] using hk
      rw [hadds] at hQ
      rw [hpar]
      refine h.added _ hQ (by simp) ?_ ?_ (fun x hx => mem_cons_of_mem _ hx) ?_ ?_ (nodup_cons.mpr ⟨hnr, h.reinsNd⟩) ?_
      · intro x hx hxq
        rw [mem_singleton.mp hx] at hxq
        exact hnr (h.both _ hxq hxR)
      · intro x hx _
        rw [mem_singleton.mp hx]
        exact mem_cons_self
      · intro x hx
        rcases mem_cons.mp hx with rfl | hx
        · exact hxR
        · exact h.reinsR x hx
      · intro x hx
        rcases mem_cons.mp hx with rfl | hx
        · exact Or.inr mem_cons_self
        · exact Or.inl (h.reinsQ x hx)
      · intro x hx ft hft hxf
        rw [mem_singleton.mp hx] at hxf
        exact (h.deliv _ (Or.inr hxR) ft hft hxf).1
  case get2 t sl got b r =>
    have hQ := waiting_perm [] hci hd (by simp [gstep]) rfl
    simp only [Qs, stepD, append_nil] at hQ
    exact h.perm hQ
  case disp k sl =>
    simp only [scens_append, append_nil] at h ⊢
    exact h.dispatch (overlaps_false _ _ (by simpa [okN] using hk))
  case endA id failed retried t =>
    cases hfd : n.base.running.find? (fun e => e.id == id) with
    | none => simp [fails, hfd] at hf
    | some e0 => exact h.ended e0.key.scen (scens_perm _ _ (perm_eraseP_of_find _ _ _ hfd))
  all_goals exact h

def LInv (c : SCfg) (n : NState) : Prop := NInv c n ∧ ∃ g, CInv n.base g

theorem acceptN_inv {γ : Type} (c : SCfg) (hwf : WF c) (gh : NState → γ → Label → γ) (Inv : NState → γ → Prop)
    (step : ∀ n x l, LInv c n → Inv n x → NClean (stepN c n l) = true → Inv (stepN c n l) (gh n x l))
    (x0 : γ) (h0 : Inv {} x0) (ls : List Label) (hc : NClean (acceptN c ls) = true) :
    LInv c (acceptN c ls) ∧
      Inv (acceptN c ls) (ls.foldl (fun nx l => (stepN c nx.1 l, gh nx.1 nx.2 l)) ({}, x0)).2 := by
  refine foldl_ghost_inv (stepN c) gh (fun n => NClean n = true) (nclean_step_mono c) (fun n x => LInv c n ∧ Inv n x)
    (fun n x l h hc => ?_) ls {} x0
    ⟨⟨ninv_init c, _, cinv_init⟩, h0⟩ hc
  obtain ⟨⟨hn, g, hci⟩, hi⟩ := h
  have hcl : Clean (stepL c n.base l) = true := by
    simp [Clean, ← stepN_base, nclean_base hc]
  exact ⟨⟨step_ninv c hwf n g l hn hci hc, _, stepN_base c n l ▸ step_cinv c n.base g l hci hcl⟩,
    step n x l ⟨hn, g, hci⟩ hi hc⟩

theorem acceptN_ninv (c : SCfg) (hwf : WF c) (ls : List Label) (hc : NClean (acceptN c ls) = true) :
    NInv c (acceptN c ls) :=
  (acceptN_inv c hwf (fun _ (_ : Unit) _ => ()) (fun _ _ => True) (fun _ _ _ _ _ _ => trivial) () trivial ls hc).1.1

end

end Cuke.SchedSeq
