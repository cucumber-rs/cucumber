import Cuke.Model.Summarize
/-!
  The guard of the one truncated subtraction in the Summarize model.

  `Summarize::handle_scenario` does `self.scenarios.skipped -= 1` when a `Hook::Failed` arrives for a scenario whose
  indicator is `Skipped` (and leaves the indicator at `Skipped`). In the code this is an arithmetic underflow when
  `skipped = 0` (a panic with overflow checks, a wrap without); the model's `Nat` subtraction would silently give 0.
  Here: on every stream satisfying `OneFailedHookPerSkip` — between a skipped step of a scenario path and that path's
  next skipped step or `Scenario::Finished` there is at most one failed hook — the decrement is never reached with
  `skipped = 0`, so the model's subtraction is exact there.
-/
namespace Cuke.SummG
open Cuke List

def step (cat : Catalog) (s : Summ) (e : Ev) : Summ := ((s.pre cat e).post).1

def hookFailedKey? : Ev → Option ScenKey
  | .scen k _ (.hook _ r) => if r.isFailed then some k else none
  | _ => none

def hookFailedKeys (evs : List Ev) : List ScenKey := evs.filterMap hookFailedKey?

/-- the decrement is only reached with something to decrement -/
def guardOk (s : Summ) (e : Ev) : Bool :=
  match hookFailedKey? e with
  | some k => !(s.isInProgress && s.handled.get k == some .skipped) || decide (0 < s.scenarios.skipped)
  | none => true

def guardRun (cat : Catalog) : Summ → List Ev → Bool
  | _, [] => true
  | s, e :: es => guardOk s e && guardRun cat (step cat s e) es

def keys (h : Handled) : List ScenKey := h.map (·.1)

/-- entries marked Skipped whose path has not had a failed hook yet -/
def openSkipped (h : Handled) (seen : List ScenKey) : Nat :=
  (h.filter (fun e => e.2 == .skipped && !seen.contains e.1)).length

def GInv (s : Summ) (seen : List ScenKey) : Prop :=
  (keys s.handled).Nodup ∧ openSkipped s.handled seen ≤ s.scenarios.skipped

theorem get_cons (e : ScenKey × Indicator) (rest : Handled) (x : ScenKey) :
    Handled.get (e :: rest) x = if e.1 == x then some e.2 else Handled.get rest x := by
  simp only [Handled.get, find?_cons]
  split <;> simp_all

theorem remove_cons (e : ScenKey × Indicator) (rest : Handled) (k : ScenKey) :
    Handled.remove (e :: rest) k = if e.1 == k then Handled.remove rest k else e :: Handled.remove rest k := by
  simp only [Handled.remove, filter_cons]
  split <;> simp_all

theorem get_remove (h : Handled) (k x : ScenKey) : (h.remove k).get x = if x = k then none else h.get x := by
  simp only [Handled.get, Handled.remove, find?_filter]
  split
  · next hx =>
    subst hx
    simp
  · next hx =>
    congr 2
    funext e
    by_cases he : e.1 = x
    · simp [he, hx]
    · simp [he]

theorem get_insert (h : Handled) (k x : ScenKey) (i : Indicator) :
    (h.insert k i).get x = if x = k then some i else h.get x := by
  rw [Handled.insert, get_cons, get_remove]
  by_cases hx : x = k
  · simp [hx]
  · have : ¬ k = x := fun hc => hx hc.symm
    simp [hx, this]

theorem skipped_of_remove {h : Handled} {k x : ScenKey} (hx : (h.remove k).get x = some .skipped) :
    h.get x = some .skipped ∧ (x == k) = false := by
  rw [get_remove] at hx
  split at hx
  · cases hx
  · exact ⟨hx, by simpa⟩

theorem skipped_of_insert {h : Handled} {k x : ScenKey} {i : Indicator} (hi : i ≠ .skipped)
    (hx : (h.insert k i).get x = some .skipped) : h.get x = some .skipped := by
  rw [get_insert] at hx
  split at hx
  · exact absurd (Option.some.inj hx) hi
  · exact hx

theorem keys_remove (h : Handled) (k : ScenKey) : keys (h.remove k) = (keys h).filter (fun x => !(x == k)) := by
  simp [keys, Handled.remove, filter_map, Function.comp_def]

theorem nodup_remove (h : Handled) (k : ScenKey) (hn : (keys h).Nodup) : (keys (h.remove k)).Nodup := by
  rw [keys_remove]; exact hn.filter _

theorem nodup_insert (h : Handled) (k : ScenKey) (i : Indicator) (hn : (keys h).Nodup) : (keys (h.insert k i)).Nodup := by
  simp only [Handled.insert, keys, map_cons, nodup_cons]
  exact ⟨by rw [← keys, keys_remove]; simp, nodup_remove h k hn⟩

theorem ne_of_nodup_cons {a : ScenKey × Indicator} {rest : Handled} (hn : (keys (a :: rest)).Nodup)
    {e : ScenKey × Indicator} (he : e ∈ rest) : a.1 ≠ e.1 := by
  simp only [keys, map_cons, nodup_cons] at hn
  exact fun hc => hn.1 (by rw [hc]; exact mem_map.mpr ⟨e, he, rfl⟩)

theorem get_of_mem_nodup (h : Handled) (hn : (keys h).Nodup) (e : ScenKey × Indicator) (he : e ∈ h) :
    h.get e.1 = some e.2 := by
  induction h with
  | nil => cases he
  | cons a rest ih =>
    rw [get_cons]
    rcases mem_cons.mp he with rfl | hm
    · simp
    · rw [if_neg (by simpa using ne_of_nodup_cons hn hm)]
      exact ih (nodup_cons.mp hn).2 hm

theorem filter_length_mono {α} (l : List α) (p q : α → Bool) (h : ∀ a, p a = true → q a = true) :
    (l.filter p).length ≤ (l.filter q).length := by
  rw [← countP_eq_length_filter, ← countP_eq_length_filter]
  exact countP_mono_left fun a _ => h a

theorem openSkipped_cons (e : ScenKey × Indicator) (rest : Handled) (seen : List ScenKey) :
    openSkipped (e :: rest) seen = openSkipped rest seen + if e.2 == .skipped && !seen.contains e.1 then 1 else 0 := by
  simp only [openSkipped, filter_cons]
  split <;> rfl

theorem openSkipped_congr (h : Handled) (seen seen' : List ScenKey)
    (hc : ∀ e ∈ h, e.2 = .skipped → seen.contains e.1 = seen'.contains e.1) :
    openSkipped h seen = openSkipped h seen' := by
  unfold openSkipped
  congr 1
  apply filter_congr
  intro e he
  by_cases hs : e.2 = .skipped
  · rw [hc e he hs]
  · have : (e.2 == .skipped) = false := by simpa using hs
    simp only [this, Bool.false_and]

theorem openSkipped_remove_le (h : Handled) (k : ScenKey) (seen : List ScenKey) :
    openSkipped (h.remove k) seen ≤ openSkipped h seen := by
  simp only [openSkipped, Handled.remove, filter_filter]
  apply filter_length_mono
  intro e he
  simp only [Bool.and_eq_true] at he ⊢
  exact he.1

theorem openSkipped_insert_le (h : Handled) (k : ScenKey) (i : Indicator) (seen : List ScenKey) :
    openSkipped (h.insert k i) seen ≤ openSkipped h seen + 1 := by
  have := openSkipped_remove_le h k seen
  rw [Handled.insert, openSkipped_cons]
  split <;> omega

theorem openSkipped_insert_other (h : Handled) (k : ScenKey) (i : Indicator) (seen : List ScenKey) (hi : i ≠ .skipped) :
    openSkipped (h.insert k i) seen ≤ openSkipped h seen := by
  have : (i == Indicator.skipped) = false := by simpa using hi
  rw [Handled.insert, openSkipped_cons, this]
  exact openSkipped_remove_le h k seen

theorem openSkipped_seen_le (h : Handled) (k : ScenKey) (seen : List ScenKey) :
    openSkipped h (k :: seen) ≤ openSkipped h seen := by
  simp only [openSkipped]
  apply filter_length_mono
  intro e he
  simp only [Bool.and_eq_true, Bool.not_eq_true', contains_cons, Bool.or_eq_false_iff] at he ⊢
  exact ⟨he.1, he.2.2⟩

theorem contains_filter_ne (l : List ScenKey) (k x : ScenKey) (h : (x == k) = false) :
    (l.filter (fun y => !(y == k))).contains x = l.contains x := by
  rw [Bool.eq_iff_iff]
  simp only [contains_iff_mem, mem_filter, Bool.not_eq_true']
  exact ⟨fun hh => hh.1, fun hh => ⟨hh, h⟩⟩

theorem openSkipped_filter_other (h : Handled) (k : ScenKey) (used : List ScenKey) (hn : (keys h).Nodup)
    (hg : h.get k ≠ some .skipped) :
    openSkipped h (used.filter (fun x => !(x == k))) = openSkipped h used := by
  apply openSkipped_congr
  intro e he hs
  apply contains_filter_ne
  have : e.1 ≠ k := fun hc => hg (by rw [← hc, get_of_mem_nodup h hn e he, hs])
  simpa using this

theorem openSkipped_remove_filter (h : Handled) (k : ScenKey) (used : List ScenKey) (hn : (keys h).Nodup) :
    openSkipped (h.remove k) (used.filter (fun x => !(x == k))) ≤ openSkipped h used := by
  rw [openSkipped_filter_other _ k used (nodup_remove h k hn) (by simp [get_remove])]
  exact openSkipped_remove_le h k used

theorem openSkipped_take (h : Handled) (k : ScenKey) (seen : List ScenKey) (hn : (keys h).Nodup)
    (hg : h.get k = some .skipped) (hk : k ∉ seen) :
    openSkipped h (k :: seen) + 1 = openSkipped h seen := by
  induction h with
  | nil => cases hg
  | cons e rest ih =>
    rw [get_cons] at hg
    rw [openSkipped_cons, openSkipped_cons]
    by_cases hek : e.1 = k
    · -- `k`'s own entry; `k` does not occur in the rest
      rw [if_pos (by simpa using hek)] at hg
      have hrest : openSkipped rest (k :: seen) = openSkipped rest seen :=
        openSkipped_congr _ _ _ fun x hx _ => by
          have : (x.1 == k) = false := beq_eq_false_iff_ne.mpr fun hc => ne_of_nodup_cons hn hx (hek.trans hc.symm)
          simp only [contains_cons, this, Bool.false_or]
      simp [hrest, Option.some.inj hg, hek, hk]
    · have hek' : (e.1 == k) = false := by simpa using hek
      rw [if_neg (by simp [hek'])] at hg
      have := ih (nodup_cons.mp hn).2 hg
      simp only [contains_cons, hek', Bool.false_or]
      omega

/-! ## the stream condition: at most one failed hook after a skipped step, per attempt

A ghost that reads ONLY the stream: `sk` = the paths with a skipped step since their last `Scenario::Finished`,
`used` = those of them that have had a failed hook since. The condition is violated (`none`) exactly when a failed
hook arrives for a path that is in both. Every Runner stream satisfies it: a skipped step ends the attempt's steps,
then the After hook runs once, then Finished; a failed Before hook precedes any step. A stream in which no path has
two failed hooks at all satisfies it (`ghost_of_nodup_from`). -/

structure Ghost where
  sk : List ScenKey := []
  used : List ScenKey := []

def ghostStep (g : Ghost) : Ev → Option Ghost
  | .scen k _ (.hook _ r) =>
    if r.isFailed then
      if g.sk.contains k then (if g.used.contains k then none else some { g with used := k :: g.used })
      else some g
    else some g
  | .scen k _ (.bg _ .skipped) => some { sk := k :: g.sk.filter (fun x => !(x == k)), used := g.used.filter (fun x => !(x == k)) }
  | .scen k _ (.step _ .skipped) => some { sk := k :: g.sk.filter (fun x => !(x == k)), used := g.used.filter (fun x => !(x == k)) }
  | .scen k _ .finished => some { sk := g.sk.filter (fun x => !(x == k)), used := g.used.filter (fun x => !(x == k)) }
  | _ => some g

def ghostRun : Ghost → List Ev → Bool
  | _, [] => true
  | g, e :: es => match ghostStep g e with
    | some g' => ghostRun g' es
    | none => false

/-- the stream never has a second failed hook after a skipped step within one attempt -/
def OneFailedHookPerSkip (evs : List Ev) : Bool := ghostRun {} evs

def GInv2 (s : Summ) (g : Ghost) : Prop :=
  (keys s.handled).Nodup ∧ openSkipped s.handled g.used ≤ s.scenarios.skipped ∧
  (∀ k, s.handled.get k = some .skipped → k ∈ g.sk)

theorem ginv2_frame (s s' : Summ) (g : Ghost) (hh : s'.handled = s.handled)
    (hs : s'.scenarios.skipped = s.scenarios.skipped) (h : GInv2 s g) : GInv2 s' g := by
  unfold GInv2; rw [hh, hs]; exact h

theorem ginv2_insert {s s' : Summ} {g : Ghost} (k : ScenKey) {i : Indicator} (hi : i ≠ .skipped)
    (hh : s'.handled = s.handled.insert k i) (hs : s'.scenarios.skipped = s.scenarios.skipped) (h : GInv2 s g) :
    GInv2 s' g := by
  unfold GInv2; rw [hh, hs]
  exact ⟨nodup_insert _ k _ h.1, Nat.le_trans (openSkipped_insert_other _ k _ _ hi) h.2.1,
    fun x hx => h.2.2 x (skipped_of_insert hi hx)⟩

theorem handleStep_ginv2 (s : Summ) (k : ScenKey) (isLast : Bool) (r : StepRes) (ret : Option Retries) (g : Ghost)
    (hr : r ≠ .skipped) (h : GInv2 s g) : GInv2 (s.handleStep k isLast r ret) g := by
  cases r with
  | started => exact h
  | skipped => exact absurd rfl hr
  | passed =>
    simp only [Summ.handleStep]
    split
    · exact ⟨nodup_remove _ k h.1, Nat.le_trans (openSkipped_remove_le _ k _) h.2.1,
        fun x hx => h.2.2 x (skipped_of_remove hx).1⟩
    · exact ginv2_frame s _ g rfl rfl h
  | failed err =>
    simp only [Summ.handleStep]
    split
    · split
      · exact ginv2_insert k (i := .retried) nofun rfl rfl h
      · exact ginv2_insert k (i := .retried) nofun rfl rfl h
    · exact ginv2_insert k (i := .failed) nofun rfl rfl h

theorem handleStep_skipped_ginv2 (s : Summ) (k : ScenKey) (isLast : Bool) (ret : Option Retries) (g : Ghost) (h : GInv2 s g) :
    GInv2 (s.handleStep k isLast .skipped ret)
      { sk := k :: g.sk.filter (fun x => !(x == k)), used := g.used.filter (fun x => !(x == k)) } := by
  simp only [Summ.handleStep]
  refine ⟨nodup_insert _ k _ h.1, ?_, ?_⟩
  · show openSkipped (s.handled.insert k .skipped) (g.used.filter (fun x => !(x == k))) ≤ s.scenarios.skipped + 1
    have := openSkipped_remove_filter s.handled k g.used h.1
    have := h.2.1
    rw [Handled.insert, openSkipped_cons]
    split <;> omega
  · intro x hx
    rw [get_insert] at hx
    by_cases hxk : x = k
    · simp [hxk]
    · rw [if_neg hxk] at hx
      simp only [mem_cons, mem_filter, Bool.not_eq_true']
      exact Or.inr ⟨h.2.2 x hx, by simpa using hxk⟩

theorem handleScenFinished_ginv2 (s : Summ) (k : ScenKey) (g : Ghost) (h : GInv2 s g) :
    GInv2 (s.handleScenFinished k) { sk := g.sk.filter (fun x => !(x == k)), used := g.used.filter (fun x => !(x == k)) } := by
  have keepsk : ∀ x, (x == k) = false → x ∈ g.sk → x ∈ g.sk.filter (fun y => !(y == k)) := by
    intro x hx hm; simp only [mem_filter, Bool.not_eq_true']; exact ⟨hm, hx⟩
  -- unless `k` is marked Skipped the map stays as it is, and what `used` said about `k` did not matter
  have stays : s.handled.get k ≠ some .skipped →
      GInv2 s { sk := g.sk.filter (fun x => !(x == k)), used := g.used.filter (fun x => !(x == k)) } := fun hg =>
    ⟨h.1, by rw [openSkipped_filter_other _ k _ h.1 hg]; exact h.2.1,
      fun x hx => keepsk x (beq_eq_false_iff_ne.mpr fun hc => hg (hc ▸ hx)) (h.2.2 x hx)⟩
  simp only [Summ.handleScenFinished]
  cases hg : s.handled.get k with
  | none => exact ginv2_frame s _ _ rfl rfl (stays (by simp [hg]))
  | some i =>
    cases i with
    | retried => exact stays (by simp [hg])
    | _ =>
      exact ⟨nodup_remove _ k h.1, Nat.le_trans (openSkipped_remove_filter _ k _ h.1) h.2.1,
        fun x hx => keepsk x (skipped_of_remove hx).2 (h.2.2 x (skipped_of_remove hx).1)⟩

theorem handleHookFailed_ginv2 (s : Summ) (k : ScenKey) (ret : Option Retries) (t : HookTy) (r : HookRes) (g g' : Ghost)
    (hf : r.isFailed = true) (h : GInv2 s g) (hgs : ghostStep g (.scen k ret (.hook t r)) = some g') :
    (s.handled.get k = some .skipped → 0 < s.scenarios.skipped) ∧ GInv2 (s.handleHookFailed k) g' := by
  -- the ghost stays as it is (`k` has no skipped step) or marks `k` used (it was not)
  have hcase : (g' = g ∧ k ∉ g.sk) ∨ (g' = { g with used := k :: g.used } ∧ k ∉ g.used) := by
    simp only [ghostStep, hf, if_true] at hgs
    split at hgs
    · split at hgs
      · cases hgs
      · rename_i hu
        exact Or.inr ⟨(Option.some.inj hgs).symm, by simpa using hu⟩
    · rename_i hsk
      exact Or.inl ⟨(Option.some.inj hgs).symm, by simpa using hsk⟩
  have hmono : ∀ s1 : Summ, GInv2 s1 g → GInv2 s1 g' := by
    intro s1 h1
    rcases hcase with ⟨rfl, _⟩ | ⟨rfl, _⟩
    · exact h1
    · exact ⟨h1.1, Nat.le_trans (openSkipped_seen_le _ k g.used) h1.2.1, h1.2.2⟩
  -- if `k` is marked Skipped it is the second case, and `k`'s entry was counted
  have htake : s.handled.get k = some .skipped →
      g' = { g with used := k :: g.used } ∧ openSkipped s.handled (k :: g.used) + 1 = openSkipped s.handled g.used := by
    intro hg
    rcases hcase with ⟨_, hsk⟩ | ⟨rfl, hk⟩
    · exact absurd (h.2.2 k hg) hsk
    · exact ⟨rfl, openSkipped_take s.handled k g.used h.1 hg hk⟩
  have hle := h.2.1
  constructor
  · intro hg
    have := (htake hg).2
    omega
  · simp only [Summ.handleHookFailed]
    cases hg : s.handled.get k with
    | none => exact hmono _ (ginv2_insert k (i := .failed) nofun rfl rfl h)
    | some i =>
      cases i with
      | skipped =>
        obtain ⟨rfl, ht⟩ := htake hg
        refine ⟨h.1, ?_, h.2.2⟩
        show openSkipped s.handled (k :: g.used) ≤ s.scenarios.skipped - 1
        omega
      | _ => exact hmono _ (ginv2_frame s _ g rfl rfl h)

theorem step_handled (cat : Catalog) (s : Summ) (e : Ev) :
    (step cat s e).handled = (s.pre cat e).handled ∧ (step cat s e).scenarios = (s.pre cat e).scenarios := by
  simp only [step, Summ.post]; split <;> exact ⟨rfl, rfl⟩

theorem step_ginv2 (cat : Catalog) (s : Summ) (e : Ev) (g g' : Ghost) (h : GInv2 s g) (hgs : ghostStep g e = some g')
    (hip : s.isInProgress = true) :
    guardOk s e = true ∧ GInv2 (step cat s e) g' := by
  obtain ⟨hh, hs⟩ := step_handled cat s e
  have hpre : s.pre cat e = s.count cat e := by simp [Summ.pre, hip]
  rw [hpre] at hh hs
  have lift : ∀ g1, GInv2 (s.count cat e) g1 → GInv2 (step cat s e) g1 := fun g1 hp =>
    ginv2_frame _ _ g1 hh (by rw [hs]) hp
  have same : hookFailedKey? e = none → g = g' → GInv2 (s.count cat e) g → guardOk s e = true ∧ GInv2 (step cat s e) g' := by
    rintro hk rfl hc
    exact ⟨by simp [guardOk, hk], lift g hc⟩
  cases e with
  | scen k ret se =>
    cases se with
    | hook t r =>
      by_cases hf : r.isFailed = true
      · have hkey : hookFailedKey? (.scen k ret (.hook t r)) = some k := by simp [hookFailedKey?, hf]
        obtain ⟨hguard, hinv⟩ := handleHookFailed_ginv2 s k ret t r g g' hf h hgs
        refine ⟨?_, lift _ (by simpa [Summ.count, Summ.handleScenario, hf] using hinv)⟩
        by_cases hg : s.handled.get k = some .skipped
        · simp [guardOk, hkey, hguard hg]
        · simp [guardOk, hkey, hg]
      · have hf' : r.isFailed = false := by simpa using hf
        simp only [ghostStep, hf', Bool.false_eq_true, if_false, Option.some.injEq] at hgs
        exact same (by simp [hookFailedKey?, hf']) hgs (by simpa [Summ.count, Summ.handleScenario, hf'] using h)
    | bg i r =>
      cases r with
      | skipped =>
        cases hgs
        exact ⟨rfl, lift _ (handleStep_skipped_ginv2 s k false ret g h)⟩
      | _ => exact same rfl (Option.some.inj hgs) (handleStep_ginv2 s k false _ ret g nofun h)
    | step i r =>
      cases r with
      | skipped =>
        cases hgs
        exact ⟨rfl, lift _ (handleStep_skipped_ginv2 s k (decide (i + 1 = cat.nsteps k)) ret g h)⟩
      | _ => exact same rfl (Option.some.inj hgs) (handleStep_ginv2 s k _ _ ret g nofun h)
    | finished =>
      cases hgs
      exact ⟨rfl, lift _ (handleScenFinished_ginv2 s k g h)⟩
    | _ => exact same rfl (Option.some.inj hgs) h
  | _ => exact same rfl (Option.some.inj hgs) (ginv2_frame s _ g rfl rfl h)

/-- after run-Finished the model counts nothing any more: the decrement is never reached again -/
theorem step_frozen (cat : Catalog) (s : Summ) (e : Ev) (hip : s.isInProgress = false) :
    guardOk s e = true ∧ (step cat s e).isInProgress = false := by
  refine ⟨by unfold guardOk; split <;> simp [hip], ?_⟩
  have hpre : s.pre cat e = s := by simp [Summ.pre, hip]
  simp only [step, hpre, Summ.post]
  split
  · simp [Summ.isInProgress]
  · exact hip

/-- **No underflow**: on every stream with at most one failed hook after a skipped step per attempt, the model never
    reaches its truncated subtraction with nothing to subtract — there its `Nat` arithmetic is the code's arithmetic. -/
theorem guardRun_from (cat : Catalog) (s : Summ) (g : Ghost) (evs : List Ev)
    (h : s.isInProgress = false ∨ GInv2 s g) (hgr : ghostRun g evs = true) : guardRun cat s evs = true := by
  induction evs generalizing s g with
  | nil => rfl
  | cons e es ih =>
    simp only [ghostRun] at hgr
    cases hgs : ghostStep g e with
    | none => simp [hgs] at hgr
    | some g' =>
      simp only [hgs] at hgr
      by_cases hip : s.isInProgress = true
      · rcases h with h | h
        · rw [hip] at h; cases h
        · obtain ⟨hg, hinv⟩ := step_ginv2 cat s e g g' h hgs hip
          simp only [guardRun, hg, Bool.true_and]
          exact ih (step cat s e) g' (Or.inr hinv) hgr
      · have hip' : s.isInProgress = false := by simpa using hip
        obtain ⟨hg, hfz⟩ := step_frozen cat s e hip'
        simp only [guardRun, hg, Bool.true_and]
        exact ih (step cat s e) g' (Or.inl hfz) hgr

theorem ginv2_init : GInv2 {} {} :=
  ⟨by simp [keys], by simp [openSkipped], fun k hk => by simp [Handled.get] at hk⟩

theorem ghost_of_nodup_from (g : Ghost) (evs : List Ev) (hnd : (hookFailedKeys evs).Nodup)
    (hdisj : ∀ k ∈ hookFailedKeys evs, k ∉ g.used) : ghostRun g evs = true := by
  induction evs generalizing g with
  | nil => rfl
  | cons e es ih =>
    have sub : ∀ (g' : Ghost), (∀ x ∈ g'.used, x ∈ g.used) → hookFailedKey? e = none → ghostStep g e = some g' →
        ghostRun g (e :: es) = true := by
      intro g' hsub hk hgs
      simp only [ghostRun, hgs]
      have hcons : hookFailedKeys (e :: es) = hookFailedKeys es := by simp [hookFailedKeys, hk]
      rw [hcons] at hnd hdisj
      exact ih g' hnd (fun k hkm hc => hdisj k hkm (hsub k hc))
    have filt : ∀ (k : ScenKey) x, x ∈ g.used.filter (fun y => !(y == k)) → x ∈ g.used := fun k x hx => (mem_filter.mp hx).1
    cases e with
    | scen k ret se =>
      cases se with
      | hook t r =>
        by_cases hf : r.isFailed = true
        · have hkey : hookFailedKey? (.scen k ret (.hook t r)) = some k := by simp [hookFailedKey?, hf]
          have hcons : hookFailedKeys (.scen k ret (.hook t r) :: es) = k :: hookFailedKeys es := by
            simp [hookFailedKeys, hkey]
          rw [hcons] at hnd hdisj
          have hku : g.used.contains k = false := by simpa using hdisj k (by simp)
          obtain ⟨hknew, hnd'⟩ := nodup_cons.mp hnd
          by_cases hsk : g.sk.contains k = true
          · simp only [ghostRun, ghostStep, hf, if_true, hku, Bool.false_eq_true, if_false, hsk]
            apply ih _ hnd'
            intro x hx hc
            rcases mem_cons.mp hc with rfl | hc
            · exact hknew hx
            · exact hdisj x (mem_cons_of_mem _ hx) hc
          · have hsk' : g.sk.contains k = false := by simpa using hsk
            simp only [ghostRun, ghostStep, hf, if_true, hsk', Bool.false_eq_true, if_false]
            exact ih g hnd' (fun x hx hc => hdisj x (mem_cons_of_mem _ hx) hc)
        · have hf' : r.isFailed = false := by simpa using hf
          exact sub g (fun _ h => h) (by simp [hookFailedKey?, hf']) (by simp [ghostStep, hf'])
      | finished => exact sub _ (filt k) rfl rfl
      | bg i r =>
        cases r with
        | skipped => exact sub _ (filt k) rfl rfl
        | _ => exact sub g (fun _ h => h) rfl rfl
      | step i r =>
        cases r with
        | skipped => exact sub _ (filt k) rfl rfl
        | _ => exact sub g (fun _ h => h) rfl rfl
      | _ => exact sub g (fun _ h => h) rfl rfl
    | _ => exact sub g (fun _ h => h) rfl rfl

end Cuke.SummG
