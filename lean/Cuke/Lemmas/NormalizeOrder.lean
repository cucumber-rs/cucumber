import Cuke.Lemmas.NormalizeInsert
/-!
  What insertion does to the events the queue owes (C11, "each scenario attempt's events … in their original
  relative order", and losslessness): the new event is put in somewhere, and nothing with its attempt key
  stands behind it (`Spliced`) — keys are pairwise distinct at every level (`NormD`, an invariant), and the
  event goes to the end of its own attempt's buffer. Hence the owed events grow by exactly the event
  (`insert_perm`), and for every attempt key κ the κ-events stay in arrival order (`Spliced.order`).
  Emission pops a PREFIX of what is owed (`emitFeats_eq` is an equality), so it cannot reorder.
-/
namespace Cuke.NormL
open Cuke List

abbrev AKey := ScenKey × Option Retries

def evKey? : Ev → Option AKey
  | .scen k ret _ => some (k, ret)
  | _ => none

def proj (κ : AKey) (l : List Ev) : List Ev := l.filter (fun e => evKey? e == some κ)

@[simp] theorem proj_nil (κ : AKey) : proj κ [] = [] := rfl
@[simp] theorem proj_append (κ : AKey) (a b : List Ev) : proj κ (a ++ b) = proj κ a ++ proj κ b := by
  simp [proj]

theorem proj_eq_nil_of (κ : AKey) (l : List Ev) (h : ∀ e ∈ l, evKey? e ≠ some κ) : proj κ l = [] := by
  simp only [proj, filter_eq_nil_iff, beq_iff_eq]
  exact h

theorem proj_flatMap_nil {α} (κ : AKey) (buf : α → List Ev) (l : List α) (h : ∀ b ∈ l, proj κ (buf b) = []) :
    proj κ (l.flatMap buf) = [] := by
  induction l with
  | nil => simp
  | cons a rest ih =>
    simp only [flatMap_cons, proj_append, h a (by simp), nil_append]
    exact ih (fun b hb => h b (by simp [hb]))

theorem proj_nonscen (κ : AKey) (e : Ev) (h : evKey? e = none) : proj κ [e] = [] := by
  simp [proj, h]

/-- a bracket that may or may not be owed carries no attempt key -/
theorem proj_mark (κ : AKey) (c : Prop) [Decidable c] (e : Ev) (he : evKey? e = none) :
    proj κ (if c then [e] else []) = [] := by
  split
  · exact proj_nonscen κ e he
  · rfl

theorem proj_bufAtt_ne (κ : AKey) (f : Nat) (r : Option Nat) (a : AttQ) (h : ((⟨f, r, a.scen⟩ : ScenKey), a.ret) ≠ κ) :
    proj κ (bufAtt f r a) = [] := by
  apply proj_eq_nil_of
  intro e he hc
  simp only [bufAtt, wrapAtt, mem_map] at he
  obtain ⟨se, _, rfl⟩ := he
  exact h (Option.some.inj hc)

/-- the item of a feature's queue under which the events of attempt `κ` are filed -/
def hosts (κ : AKey) (it : Item) : Bool :=
  match κ.1.rule with
  | some r => it.isRule r
  | none => it.isAtt κ.1.scen κ.2

theorem proj_bufRule (κ : AKey) (f r : Nat) (q : RuleQ) :
    proj κ (bufRule f r q) = proj κ (q.atts.flatMap (bufAtt f (some r))) := by
  simp [bufRule, proj_mark κ _ (Ev.ruleStarted f r) rfl, proj_mark κ _ (Ev.ruleFinished f r) rfl]

theorem proj_bufFeat (κ : AKey) (fq : Nat × FeatQ) :
    proj κ (bufFeat fq) = proj κ (fq.2.items.flatMap (bufItem fq.1)) := by
  simp [bufFeat, proj_mark κ _ (Ev.featStarted fq.1) rfl, proj_mark κ _ (Ev.featFinished fq.1) rfl]

theorem proj_bufItem_nil (κ : AKey) (f : Nat) (it : Item) (h : κ.1.feat ≠ f ∨ hosts κ it = false) :
    proj κ (bufItem f it) = [] := by
  obtain ⟨⟨kf, kr, ks⟩, ret⟩ := κ
  cases it with
  | att a =>
    apply proj_bufAtt_ne
    intro hc
    simp only [Prod.mk.injEq, ScenKey.mk.injEq] at hc
    obtain ⟨⟨rfl, rfl, rfl⟩, rfl⟩ := hc
    simp [hosts, Item.isAtt] at h
  | rule r q =>
    rw [bufItem, proj_bufRule]
    apply proj_flatMap_nil
    intro a _
    apply proj_bufAtt_ne
    intro hc
    simp only [Prod.mk.injEq, ScenKey.mk.injEq] at hc
    obtain ⟨⟨rfl, rfl, rfl⟩, rfl⟩ := hc
    simp [hosts, Item.isRule] at h

theorem proj_bufFeat_nil (κ : AKey) (fq : Nat × FeatQ) (h : κ.1.feat ≠ fq.1) : proj κ (bufFeat fq) = [] := by
  rw [proj_bufFeat]
  exact proj_flatMap_nil κ _ _ (fun it _ => proj_bufItem_nil κ fq.1 it (Or.inl h))

def attsD : List AttQ → Bool
  | [] => true
  | a :: rest => !(rest.any (AttQ.is a.scen a.ret)) && attsD rest

def itemsD : List Item → Bool
  | [] => true
  | .att a :: rest => !(rest.any (Item.isAtt a.scen a.ret)) && itemsD rest
  | .rule r q :: rest => !(rest.any (Item.isRule r)) && attsD q.atts && itemsD rest

def featsD : List (Nat × FeatQ) → Bool
  | [] => true
  | (f, q) :: rest => !(rest.any (fun e => e.1 == f)) && itemsD q.items && featsD rest

def NormD (n : Norm) : Prop := featsD n.feats = true

def sameItem (a b : Item) : Bool :=
  match a with
  | .att x => b.isAtt x.scen x.ret
  | .rule r _ => b.isRule r

theorem attsD_iff {atts : List AttQ} : attsD atts = true ↔ atts.Pairwise (fun a b => b.is a.scen a.ret = false) := by
  induction atts with
  | nil => simp [attsD]
  | cons a rest ih => simp [attsD, ih]

theorem itemsD_iff {items : List Item} : itemsD items = true ↔
    items.Pairwise (fun a b => sameItem a b = false) ∧ ∀ r q, Item.rule r q ∈ items → attsD q.atts = true := by
  induction items with
  | nil => simp [itemsD]
  | cons it rest ih =>
    cases it with
    | att a => simp only [itemsD, Bool.and_eq_true, Bool.not_eq_true', any_eq_false, ih, pairwise_cons, sameItem,
        mem_cons, reduceCtorEq, false_or, Bool.not_eq_true]; exact and_assoc.symm
    | rule r q =>
      simp only [itemsD, Bool.and_eq_true, Bool.not_eq_true', any_eq_false, ih, pairwise_cons, sameItem,
        mem_cons, Item.rule.injEq, Bool.not_eq_true]
      constructor
      · rintro ⟨⟨h1, h2⟩, h3, h4⟩
        exact ⟨⟨h1, h3⟩, fun r' q' hm => hm.elim (fun e => e.2 ▸ h2) (h4 r' q')⟩
      · rintro ⟨⟨h1, h3⟩, h4⟩
        exact ⟨⟨h1, h4 r q (Or.inl ⟨rfl, rfl⟩)⟩, h3, fun r' q' hm => h4 r' q' (Or.inr hm)⟩

theorem featsD_iff {fs : List (Nat × FeatQ)} : featsD fs = true ↔
    fs.Pairwise (fun a b => (b.1 == a.1) = false) ∧ ∀ fq ∈ fs, itemsD fq.2.items = true := by
  induction fs with
  | nil => simp [featsD]
  | cons fq rest ih =>
    obtain ⟨f, q⟩ := fq
    simp only [featsD, Bool.and_eq_true, Bool.not_eq_true', any_eq_false, ih, pairwise_cons, mem_cons,
      forall_eq_or_imp, Bool.not_eq_true]
    constructor
    · rintro ⟨⟨h1, h2⟩, h3, h4⟩; exact ⟨⟨h1, h3⟩, h2, h4⟩
    · rintro ⟨⟨h1, h3⟩, h2, h4⟩; exact ⟨⟨h1, h2⟩, h3, h4⟩

theorem pairwise_replace {α} {R : α → α → Prop} {l1 : List α} {a : α} {l2 : List α} (a' : α)
    (h : (l1 ++ a :: l2).Pairwise R) (h1 : ∀ x, R x a → R x a') (h2 : ∀ y, R a y → R a' y) :
    (l1 ++ a' :: l2).Pairwise R := by
  simp only [pairwise_append, pairwise_cons, mem_cons, forall_eq_or_imp] at h ⊢
  exact ⟨h.1, ⟨fun y hy => h2 y (h.2.1.1 y hy), h.2.1.2⟩, fun x hx => ⟨h1 x (h.2.2 x hx).1, (h.2.2 x hx).2⟩⟩

theorem pairwise_snoc {α} {R : α → α → Prop} {l : List α} {a : α} (h : l.Pairwise R) (ha : ∀ x ∈ l, R x a) :
    (l ++ [a]).Pairwise R :=
  pairwise_append.mpr ⟨h, pairwise_singleton R a, fun x hx _ hy => mem_singleton.mp hy ▸ ha x hx⟩

theorem pairwise_behind {α} {R : α → α → Prop} {l1 : List α} {a : α} {l2 : List α}
    (h : (l1 ++ a :: l2).Pairwise R) : ∀ b ∈ l2, R a b := by
  simp only [pairwise_append, pairwise_cons] at h
  exact h.2.1.1

theorem pairwise_eq {α} {R : α → α → Prop} {l : List α} (h : l.Pairwise R) {a b : α} (ha : a ∈ l) (hb : b ∈ l)
    (hab : ¬R a b) (hba : ¬R b a) : a = b := by
  induction l with
  | nil => simp at ha
  | cons x rest ih =>
    rw [pairwise_cons] at h
    rcases mem_cons.mp ha with rfl | ha'
    · rcases mem_cons.mp hb with rfl | hb'
      · rfl
      · exact absurd (h.1 b hb') hab
    · rcases mem_cons.mp hb with rfl | hb'
      · exact absurd (h.1 a ha') hba
      · exact ih h.2 ha' hb'

theorem rule_unique (items : List Item) (hd : itemsD items = true) (r : Nat) (rq rq2 : RuleQ)
    (h1 : Item.rule r rq ∈ items) (h2 : Item.rule r rq2 ∈ items) : rq = rq2 := by
  have := pairwise_eq (itemsD_iff.mp hd).1 h1 h2 (by simp [sameItem, Item.isRule]) (by simp [sameItem, Item.isRule])
  exact (Item.rule.inj this).2

theorem featIn_of_mem (n : Norm) (f : Nat) (q : FeatQ) (hd : NormD n) (hm : (f, q) ∈ n.feats) : featIn n f = some q := by
  obtain ⟨F1, F2, hfs⟩ := append_of_mem hm
  refine featIn_eq_some.mpr ⟨F1, F2, hfs, fun x hx => ?_⟩
  unfold NormD at hd
  rw [hfs, featsD_iff, pairwise_append] at hd
  have := hd.1.2.2 x hx (f, q) (by simp)
  simp only [beq_eq_false_iff_ne, ne_eq] at this ⊢
  exact fun c => this c.symm

theorem feat_unique {fs : List (Nat × FeatQ)} (hd : featsD fs = true) {f : Nat} {q q' : FeatQ} (h : (f, q) ∈ fs)
    (h' : (f, q') ∈ fs) : q = q' :=
  Option.some.inj ((featIn_of_mem ⟨fs, .no⟩ f q hd h).symm.trans (featIn_of_mem ⟨fs, .no⟩ f q' hd h'))

theorem atts_behind {A1 : List AttQ} {a : AttQ} {A2 : List AttQ} (hd : attsD (A1 ++ a :: A2) = true) (f : Nat)
    (r : Option Nat) : proj (⟨f, r, a.scen⟩, a.ret) (A2.flatMap (bufAtt f r)) = [] := by
  apply proj_flatMap_nil
  intro b hb
  apply proj_bufAtt_ne
  intro hc
  simp only [Prod.mk.injEq, ScenKey.mk.injEq, true_and] at hc
  have := pairwise_behind (attsD_iff.mp hd) b hb
  simp [AttQ.is, hc.1, hc.2] at this

theorem items_behind {I1 : List Item} {it : Item} {I2 : List Item} (hd : itemsD (I1 ++ it :: I2) = true) (f : Nat)
    (κ : AKey) (hκ : ∀ b, sameItem it b = false → hosts κ b = false) : proj κ (I2.flatMap (bufItem f)) = [] :=
  proj_flatMap_nil κ _ _ (fun b hb =>
    proj_bufItem_nil κ f b (Or.inr (hκ b (pairwise_behind (itemsD_iff.mp hd).1 b hb))))

theorem feats_behind {F1 : List (Nat × FeatQ)} {f : Nat} {q : FeatQ} {F2 : List (Nat × FeatQ)}
    (hd : featsD (F1 ++ (f, q) :: F2) = true) (κ : AKey) (hκ : κ.1.feat = f) : proj κ (bufFeats F2) = [] := by
  apply proj_flatMap_nil
  intro b hb
  apply proj_bufFeat_nil
  intro hc
  have := pairwise_behind (featsD_iff.mp hd).1 b hb
  simp [← hc, hκ] at this

/-- `new` is `old` with `x` put in somewhere; if `D` (the keys where this happens are distinct), no event
    behind that place has the attempt key of an event of `x` -/
def Spliced (D : Prop) (x old new : List Ev) : Prop :=
  ∃ l1 l2, old = l1 ++ l2 ∧ new = l1 ++ x ++ l2 ∧ (D → ∀ κ, proj κ x = [] ∨ proj κ l2 = [])

theorem Spliced.perm {D : Prop} {x old new : List Ev} (h : Spliced D x old new) : new ~ old ++ x := by
  obtain ⟨l1, l2, rfl, rfl, _⟩ := h
  rw [append_assoc, append_assoc]
  exact Perm.append_left _ perm_append_comm

theorem Spliced.order {D : Prop} {x old new : List Ev} (h : Spliced D x old new) (hd : D) (κ : AKey) :
    proj κ new = proj κ old ++ proj κ x := by
  obtain ⟨l1, l2, rfl, rfl, ht⟩ := h
  rcases ht hd κ with h0 | h0 <;> simp [h0]

theorem Spliced.atEnd (D : Prop) (x old : List Ev) : Spliced D x old (old ++ x) :=
  ⟨old, [], by simp, by simp, fun _ _ => Or.inr rfl⟩

theorem Spliced.refl (D : Prop) (old : List Ev) : Spliced D [] old old :=
  ⟨old, [], by simp, by simp, fun _ _ => Or.inl rfl⟩

theorem noKey_nonscen {e : Ev} (he : evKey? e = none) (l : List Ev) (κ : AKey) : proj κ [e] = [] ∨ proj κ l = [] :=
  Or.inl (proj_nonscen κ e he)

theorem noKey_scen {k : ScenKey} {ret : Option Retries} (ev : ScenEv) {l : List Ev} (h : proj (k, ret) l = [])
    (κ : AKey) : proj κ [Ev.scen k ret ev] = [] ∨ proj κ l = [] := by
  by_cases hκ : κ = (k, ret)
  · exact Or.inr (hκ ▸ h)
  · exact Or.inl (by simp [proj, evKey?, Ne.symm hκ])

/-- splicing into one entry's buffer is splicing into the buffer of the list, if nothing with the key follows -/
theorem Spliced.inList {α} {D D' : Prop} {x : List Ev} {buf : α → List Ev} (l1 : List α) {a a' : α} (l2 : List α)
    (h : Spliced D x (buf a) (buf a')) (hb : D' → D ∧ ∀ κ, proj κ x = [] ∨ proj κ (l2.flatMap buf) = []) :
    Spliced D' x ((l1 ++ a :: l2).flatMap buf) ((l1 ++ a' :: l2).flatMap buf) := by
  obtain ⟨m1, m2, h1, h2, ht⟩ := h
  refine ⟨l1.flatMap buf ++ m1, m2 ++ l2.flatMap buf, by simp [h1], by simp [h2], fun hd κ => ?_⟩
  obtain ⟨hd0, hb0⟩ := hb hd
  rcases ht hd0 κ with h0 | h0
  · exact Or.inl h0
  · exact (hb0 κ).imp id (fun h3 => by simp [h0, h3])

theorem Spliced.bracket {D : Prop} {x old new : List Ev} (pre post : List Ev) (hpost : ∀ κ, proj κ post = [])
    (h : Spliced D x old new) : Spliced D x (pre ++ old ++ post) (pre ++ new ++ post) := by
  obtain ⟨m1, m2, rfl, rfl, ht⟩ := h
  exact ⟨pre ++ m1, m2 ++ post, by simp, by simp, fun hd κ => (ht hd κ).imp id (fun h3 => by simp [h3, hpost κ])⟩

theorem Spliced.bufRule {D : Prop} {x : List Ev} {f r : Nat} {q : RuleQ} {atts' : List AttQ}
    (h : Spliced D x (q.atts.flatMap (bufAtt f (some r))) (atts'.flatMap (bufAtt f (some r)))) :
    Spliced D x (bufRule f r q) (bufRule f r { q with atts := atts' }) :=
  h.bracket _ _ (fun κ => proj_mark κ _ (Ev.ruleFinished f r) rfl)

theorem Spliced.bufFeat {D : Prop} {x : List Ev} {f : Nat} {q : FeatQ} {items' : List Item}
    (h : Spliced D x (q.items.flatMap (bufItem f)) (items'.flatMap (bufItem f))) :
    Spliced D x (bufFeat (f, q)) (bufFeat (f, { q with items := items' })) :=
  h.bracket _ _ (fun κ => proj_mark κ _ (Ev.featFinished f) rfl)

theorem pushAtt_spliced (f : Nat) (r : Option Nat) (atts : List AttQ) (scen : Nat) (ret : Option Retries) (ev : ScenEv) :
    Spliced (attsD atts = true) [Ev.scen ⟨f, r, scen⟩ ret ev] (atts.flatMap (bufAtt f r))
      ((pushAtt atts scen ret ev).flatMap (bufAtt f r)) := by
  rcases pushAtt_cases atts scen ret ev with ⟨A1, a, A2, rfl, rfl, rfl, _, he⟩ | ⟨_, he⟩
  · rw [he]
    refine Spliced.inList A1 A2 (D := True) ?_ (fun hd => ⟨trivial, noKey_scen ev (atts_behind hd f r)⟩)
    rw [bufAtt_push]
    exact Spliced.atEnd _ _ _
  · rw [he, flatMap_append]
    exact Spliced.atEnd _ _ _

/-- `insert_scenario_event` puts the event behind everything with its key that the feature owes -/
theorem insertScen_spliced (f : Nat) (q q' : FeatQ) (rule : Option Nat) (scen : Nat) (ret : Option Retries) (ev : ScenEv)
    (h : q.insertScen rule scen ret ev = some q') :
    Spliced (itemsD q.items = true) [Ev.scen ⟨f, rule, scen⟩ ret ev] (bufFeat (f, q)) (bufFeat (f, q')) := by
  cases rule with
  | some r =>
    obtain ⟨I1, rq, I2, hi, _, rfl⟩ := insertScen_some h
    apply Spliced.bufFeat
    rw [hi]
    refine Spliced.inList I1 I2 (pushAtt_spliced f (some r) rq.atts scen ret ev).bufRule (fun hd => ?_)
    refine ⟨(itemsD_iff.mp hd).2 r rq (by simp), noKey_scen ev (items_behind hd f _ (fun b hb => ?_))⟩
    simpa [hosts, sameItem] using hb
  | none =>
    rcases insertScen_none h with ⟨I1, a, I2, hi, rfl, rfl, _, rfl⟩ | ⟨_, rfl⟩
    · apply Spliced.bufFeat
      rw [hi]
      refine Spliced.inList I1 I2 (D := True) ?_ (fun hd => ?_)
      · rw [bufItem, bufItem, bufAtt_push]
        exact Spliced.atEnd _ _ _
      · refine ⟨trivial, noKey_scen ev (items_behind hd f _ (fun b hb => ?_))⟩
        simpa [hosts, sameItem] using hb
    · apply Spliced.bufFeat
      rw [flatMap_append]
      exact Spliced.atEnd _ _ _

/-- **Insertion step.** Under `Safe`, what the queue owes afterwards is what it owed with the new event put in —
    behind everything with the same attempt key, as long as the queue keys are distinct. -/
theorem insert_spliced (n n1 : Norm) (e : Ev) (hs : Safe n e = true) (h : n.insert e = some n1) :
    Spliced (NormD n) (queued e) (bufFeats n.feats) (bufFeats n1.feats) := by
  cases e with
  | featStarted f =>
    obtain ⟨_, rfl⟩ := insert_featStarted hs h
    simp only [bufFeats, flatMap_append]
    exact Spliced.atEnd _ _ _
  | featFinished f =>
    obtain ⟨F1, q, F2, hfs, hfin, _, rfl⟩ := insert_featFinished hs h
    rw [hfs]
    refine Spliced.inList F1 F2 (D := True) ?_ (fun _ => ⟨trivial, noKey_nonscen rfl _⟩)
    have : bufFeat (f, { q with fin := .pending }) = bufFeat (f, q) ++ [Ev.featFinished f] := by
      simp [bufFeat, hfin]
    rw [this]
    exact Spliced.atEnd _ _ _
  | ruleStarted f r =>
    obtain ⟨F1, q, F2, hfs, _, _, rfl⟩ := insert_ruleStarted hs h
    rw [hfs]
    refine Spliced.inList F1 F2 (D := True) (Spliced.bufFeat ?_) (fun _ => ⟨trivial, noKey_nonscen rfl _⟩)
    rw [flatMap_append]
    exact Spliced.atEnd _ _ _
  | ruleFinished f r =>
    obtain ⟨F1, q, F2, I1, rq, I2, hfs, hi, hfin, _, rfl⟩ := insert_ruleFinished hs h
    rw [hfs]
    refine Spliced.inList F1 F2 (D := True) (Spliced.bufFeat ?_) (fun _ => ⟨trivial, noKey_nonscen rfl _⟩)
    rw [hi]
    refine Spliced.inList I1 I2 (D := True) ?_ (fun _ => ⟨trivial, noKey_nonscen rfl _⟩)
    have : bufItem f (.rule r { rq with fin := .pending }) = bufItem f (.rule r rq) ++ [Ev.ruleFinished f r] := by
      simp [bufItem, bufRule, hfin]
    rw [this]
    exact Spliced.atEnd _ _ _
  | scen k ret ev =>
    obtain ⟨F1, q, q', F2, hfs, _, hg, rfl⟩ := insert_split h
    rw [hfs]
    refine Spliced.inList F1 F2 (insertScen_spliced k.feat q q' k.rule k.scen ret ev hg) (fun hd => ?_)
    unfold NormD at hd
    rw [hfs] at hd
    exact ⟨(featsD_iff.mp hd).2 (k.feat, q) (by simp), noKey_scen ev (feats_behind hd (k, ret) rfl)⟩
  | _ =>
    cases h
    exact Spliced.refl _ _

theorem insert_perm (n n1 : Norm) (e : Ev) (hok : NormOk n) (hs : Safe n e = true) (h : n.insert e = some n1) :
    bufFeats n1.feats ~ bufFeats n.feats ++ queued e ∧ NormOk n1 ∧
    n1.fin = (if e == .finished then .pending else n.fin) :=
  ⟨(insert_spliced n n1 e hs h).perm, insert_ok n n1 e hok hs h, insert_fin n n1 e h⟩

theorem pushAtt_D (atts : List AttQ) (scen : Nat) (ret : Option Retries) (ev : ScenEv) (hd : attsD atts = true) :
    attsD (pushAtt atts scen ret ev) = true := by
  rw [attsD_iff] at hd ⊢
  rcases pushAtt_cases atts scen ret ev with ⟨A1, a, A2, rfl, _, _, _, he⟩ | ⟨hm, he⟩
  · rw [he]
    exact pairwise_replace _ hd (fun x hx => hx) (fun y hy => hy)
  · rw [he]
    refine pairwise_snoc hd (fun x hx => ?_)
    have := hm x hx
    simp only [AttQ.is, Bool.and_eq_false_iff, beq_eq_false_iff_ne, ne_eq] at this ⊢
    exact this.imp (fun h c => h c.symm) (fun h c => h c.symm)

theorem itemsD_rule {I1 : List Item} {r : Nat} {rq : RuleQ} {I2 : List Item} (rq' : RuleQ)
    (hd : itemsD (I1 ++ .rule r rq :: I2) = true) (h : attsD rq.atts = true → attsD rq'.atts = true) :
    itemsD (I1 ++ .rule r rq' :: I2) = true := by
  rw [itemsD_iff] at hd ⊢
  refine ⟨pairwise_replace _ hd.1 (fun x hx => by cases x <;> exact hx) (fun y hy => hy), fun r' q' hm => ?_⟩
  simp only [mem_append, mem_cons, Item.rule.injEq] at hm
  rcases hm with hm | ⟨_, e2⟩ | hm
  · exact hd.2 r' q' (by simp [hm])
  · rw [e2]; exact h (hd.2 r rq (by simp))
  · exact hd.2 r' q' (by simp [hm])

theorem insertScen_D (q q' : FeatQ) (rule : Option Nat) (scen : Nat) (ret : Option Retries) (ev : ScenEv)
    (h : q.insertScen rule scen ret ev = some q') (hd : itemsD q.items = true) : itemsD q'.items = true := by
  cases rule with
  | some r =>
    obtain ⟨I1, rq, I2, hi, _, rfl⟩ := insertScen_some h
    rw [hi] at hd
    exact itemsD_rule _ hd (pushAtt_D _ _ _ _)
  | none =>
    rw [itemsD_iff] at hd ⊢
    rcases insertScen_none h with ⟨I1, a, I2, hi, _, _, _, rfl⟩ | ⟨hm, rfl⟩
    · rw [hi] at hd
      refine ⟨pairwise_replace _ hd.1 (fun x hx => by cases x <;> exact hx) (fun y hy => hy), fun r' q' hm => ?_⟩
      exact hd.2 r' q' (by simpa using hm)
    · refine ⟨pairwise_snoc hd.1 (fun x hx => ?_), fun r' q' hm' => hd.2 r' q' (by simpa using hm')⟩
      have := hm x hx
      cases x with
      | att b =>
        simp only [sameItem, Item.isAtt, Bool.and_eq_false_iff, beq_eq_false_iff_ne, ne_eq] at this ⊢
        exact this.imp (fun h c => h c.symm) (fun h c => h c.symm)
      | rule r' q' => rfl

theorem insert_D (n n1 : Norm) (e : Ev) (hd : NormD n) (hs : Safe n e = true) (h : n.insert e = some n1) : NormD n1 := by
  unfold NormD at *
  -- an event for a queued feature replaces that feature's entry under the same key
  have lift : ∀ {F1 : List (Nat × FeatQ)} {f q} {q' : FeatQ} {F2}, n.feats = F1 ++ (f, q) :: F2 →
      (itemsD q.items = true → itemsD q'.items = true) → featsD (F1 ++ (f, q') :: F2) = true := by
    intro F1 f q q' F2 hfs hq
    rw [hfs, featsD_iff] at hd
    rw [featsD_iff]
    refine ⟨pairwise_replace _ hd.1 (fun x hx => hx) (fun y hy => hy), fun fq hm => ?_⟩
    simp only [mem_append, mem_cons] at hm
    rcases hm with hm | rfl | hm
    · exact hd.2 fq (by simp [hm])
    · exact hq (hd.2 (f, q) (by simp))
    · exact hd.2 fq (by simp [hm])
  cases e with
  | featStarted f =>
    obtain ⟨hnew, rfl⟩ := insert_featStarted hs h
    rw [featsD_iff] at hd ⊢
    refine ⟨pairwise_snoc hd.1 (fun x hx => ?_), fun fq hm => ?_⟩
    · have := any_eq_false.mp hnew x hx
      simp only [beq_iff_eq] at this
      simp only [beq_eq_false_iff_ne, ne_eq]
      exact fun c => this c.symm
    · simp only [mem_append, mem_singleton] at hm
      rcases hm with hm | rfl
      · exact hd.2 fq hm
      · rfl
  | featFinished f =>
    obtain ⟨F1, q, F2, hfs, _, _, rfl⟩ := insert_featFinished hs h
    exact lift hfs id
  | ruleStarted f r =>
    obtain ⟨F1, q, F2, hfs, _, hnew, rfl⟩ := insert_ruleStarted hs h
    refine lift hfs (fun hq => ?_)
    rw [itemsD_iff] at hq ⊢
    refine ⟨pairwise_snoc hq.1 (fun x hx => ?_), fun r' q' hm' => ?_⟩
    · have := any_eq_false.mp hnew x hx
      cases x with
      | att b => rfl
      | rule r' q' =>
        simp only [Item.isRule, beq_iff_eq] at this
        simp only [sameItem, Item.isRule, beq_eq_false_iff_ne, ne_eq]
        exact fun c => this c.symm
    · simp only [mem_append, mem_singleton, Item.rule.injEq] at hm'
      rcases hm' with hm' | ⟨rfl, rfl⟩
      · exact hq.2 r' q' hm'
      · rfl
  | ruleFinished f r =>
    obtain ⟨F1, q, F2, I1, rq, I2, hfs, hi, _, _, rfl⟩ := insert_ruleFinished hs h
    refine lift hfs (fun hq => ?_)
    rw [hi] at hq
    exact itemsD_rule _ hq id
  | scen k ret ev =>
    obtain ⟨F1, q, q', F2, hfs, _, hg, rfl⟩ := insert_split h
    exact lift hfs (insertScen_D q q' k.rule k.scen ret ev hg)
  | _ => cases h; exact hd

/-! emission keeps the keys distinct: it only removes entries or empties their buffers -/

theorem emitAtts_D (f : Nat) (r : Option Nat) (atts : List AttQ) (hd : attsD atts = true) :
    attsD (emitAtts f r atts).2 = true := by
  induction atts with
  | nil => simp [emitAtts, attsD]
  | cons a rest ih =>
    simp only [attsD, Bool.and_eq_true, Bool.not_eq_true'] at hd
    simp only [emitAtts]
    split
    · exact ih hd.2
    · simp only [attsD, Bool.and_eq_true, Bool.not_eq_true']
      exact hd

theorem emitRule_atts_D (f r : Nat) (q : RuleQ) (hd : attsD q.atts = true) : attsD (emitRule f r q).2.2.atts = true := by
  simp only [emitRule]
  split <;> exact emitAtts_D f (some r) q.atts hd

theorem emitItems_D (f : Nat) (items : List Item) (hd : itemsD items = true) : itemsD (emitItems f items).2 = true := by
  induction items with
  | nil => simp [emitItems, itemsD]
  | cons it rest ih =>
    cases it with
    | att a =>
      simp only [itemsD, Bool.and_eq_true, Bool.not_eq_true'] at hd
      simp only [emitItems]
      split
      · exact ih hd.2
      · simp only [itemsD, Bool.and_eq_true, Bool.not_eq_true']
        exact hd
    | rule r rq =>
      simp only [itemsD, Bool.and_eq_true, Bool.not_eq_true'] at hd
      simp only [emitItems]
      split
      · exact ih hd.2
      · simp only [itemsD, Bool.and_eq_true, Bool.not_eq_true']
        exact ⟨⟨hd.1.1, emitRule_atts_D f r rq hd.1.2⟩, hd.2⟩

theorem emitFeats_D (fs : List (Nat × FeatQ)) (hd : featsD fs = true) : featsD (emitFeats fs).2 = true := by
  induction fs with
  | nil => simp [emitFeats, featsD]
  | cons fq rest ih =>
    obtain ⟨f, q⟩ := fq
    simp only [featsD, Bool.and_eq_true, Bool.not_eq_true'] at hd
    simp only [emitFeats]
    split
    · exact ih hd.2
    · simp only [featsD, Bool.and_eq_true, Bool.not_eq_true']
      exact ⟨⟨hd.1.1, emitItems_D f q.items hd.1.2⟩, hd.2⟩

end Cuke.NormL
