import Cuke.Lemmas.SchedInv
import Cuke.Lemmas.Brackets
/-!
  C03 over whole runs of the scheduler LTS: the bracket LEDGER as an invariant of `accept`.
  `hist s` = everything sent so far followed by everything still owed (`expect`). For every log replayed without
  a class-B disagreement: per feature (rule), #Started = #Finished + [still open in the bookkeeping] over
  `hist` — so once `finish_all_rules_and_features` has run and nothing is owed any more, every Started
  feature / rule has exactly as many Finished as Started in the stream that was actually sent.
-/
namespace Cuke.SchedBr
open Cuke List Cuke.BrL Cuke.SchedL Cuke.SchedInv

def GoodB (s : SState) : Bool := s.dis.all (fun d => d.cls != .B)

theorem goodB_note (s : SState) (cls : DClass) (m : String) (h : GoodB (s.note cls m) = true) :
    GoodB s = true ∧ cls ≠ .B := by
  simp only [GoodB, SState.note, all_append, Bool.and_eq_true, all_cons, all_nil, Bool.and_true] at h ⊢
  exact ⟨h.1, by simpa using h.2⟩

def expEvents : List Exp → List Ev
  | [] => []
  | .one e :: rest => e :: expEvents rest
  | .anyOf es :: rest => es ++ expEvents rest

theorem expEvents_append (a b : List Exp) : expEvents (a ++ b) = expEvents a ++ expEvents b := by
  induction a with
  | nil => rfl
  | cons x a ih => cases x <;> simp [expEvents, ih]

theorem expEvents_map_one (l : List Ev) : expEvents (l.map Exp.one) = l := by
  induction l with
  | nil => rfl
  | cons x l ih => simp [expEvents, ih]

theorem expEvents_empty (l : List Exp) (h : expEmpty l = true) : expEvents l = [] := by
  induction l with
  | nil => rfl
  | cons x l ih =>
    simp only [expEmpty, all_cons, Bool.and_eq_true] at h
    cases x with
    | one e => simp at h
    | anyOf es =>
      cases es with
      | nil => simpa [expEvents] using ih (by simpa [expEmpty] using h.2)
      | cons a as => simp at h

def hist (s : SState) : List Ev := s.out ++ expEvents s.expect

def isBr : Ev → Bool
  | .featStarted _ => true
  | .featFinished _ => true
  | .ruleStarted _ _ => true
  | .ruleFinished _ _ => true
  | _ => false

def SameBr (a b : List Ev) : Prop := ∀ e, isBr e = true → cnt e a = cnt e b

theorem sameBr_of_perm (a b : List Ev) (h : a ~ b) : SameBr a b := fun e _ => by
  simp only [cnt]; exact h.count_eq e

def BInv (s : SState) : Prop := FeatLedger s.br (hist s) ∧ RuleLedger s.br (hist s)

theorem takeExp_perm (e : Ev) (l rest : List Exp) (h : takeExp e l = some rest) : expEvents l ~ e :: expEvents rest := by
  induction l generalizing rest with
  | nil => simp [takeExp] at h
  | cons x l ih =>
    cases x with
    | one y =>
      simp only [takeExp] at h
      split at h
      · rename_i hy
        cases h
        rw [show y = e by simpa using hy]
        exact Perm.refl _
      · cases h
    | anyOf es =>
      cases es with
      | nil =>
        simp only [takeExp] at h
        simpa [expEvents] using ih rest h
      | cons a as =>
        simp only [takeExp] at h
        split at h
        · rename_i hc
          cases h
          simp only [expEvents]
          exact ((perm_cons_erase (by simpa using hc)).append_right _).trans (by simp)
        · cases h

theorem cnt_nonbr_single (e x : Ev) (he : isBr e = true) (hx : isBr x = false) : cnt e [x] = 0 := by
  apply cnt_zero_of_not_mem
  intro hm
  have : e = x := by simpa using hm
  subst this
  rw [he] at hx; cases hx

theorem sameBr_insert_nonbr (a b : List Ev) (x : Ev) (hx : isBr x = false) : SameBr (a ++ b) (a ++ [x] ++ b) := by
  intro e he
  simp only [cnt_append, cnt_nonbr_single e x he hx, Nat.add_zero]

theorem sameBr_append_nonbr (a : List Ev) (x : Ev) (hx : isBr x = false) : SameBr a (a ++ [x]) := by
  simpa only [append_nil] using sameBr_insert_nonbr a [] x hx

theorem goodB_inPhase (s : SState) (ok what) (h : GoodB (s.inPhase ok what) = true) : GoodB s = true := by
  unfold SState.inPhase at h
  split at h
  · exact h
  · exact (goodB_note _ _ _ h).1

theorem hist_pos (s : SState) : hist ({ s with pos := s.pos + 1 } : SState) = hist s := rfl

section
open Cuke.SchedStep

def notB (x : DClass) : Bool := x != .B

theorem goodB_step (c : SCfg) (s : SState) (l : Label) :
    GoodB (stepL c s l) = (GoodB s && (fails c s l).all notB) := all_cls_step notB c s l

theorem ledgers_congr {b : Brackets} {evs evs' : List Ev} (h : SameBr evs evs')
    (hl : FeatLedger b evs ∧ RuleLedger b evs) : FeatLedger b evs' ∧ RuleLedger b evs' :=
  ⟨Ledger.congr hl.1 fun _ => ⟨h _ rfl, h _ rfl⟩,
    ruleLedger_iff.mpr ((ruleLedger_iff.mp hl.2).congr fun _ => ⟨h _ rfl, h _ rfl⟩)⟩

theorem ledgers_empty (evs : List Ev) (hF : ∀ f, cnt (.featStarted f) evs = cnt (.featFinished f) evs)
    (hR : ∀ f r, cnt (.ruleStarted f r) evs = cnt (.ruleFinished f r) evs) :
    FeatLedger Brackets.empty evs ∧ RuleLedger Brackets.empty evs :=
  ⟨⟨by simp [keysF, Brackets.empty], fun f => ⟨fun h => by simp [keysF, Brackets.empty] at h, fun _ => hF f⟩⟩,
    ⟨by simp [keysR, Brackets.empty], fun f r => ⟨fun h => by simp [keysR, Brackets.empty] at h, fun _ => hR f r⟩⟩⟩

theorem owe_nonbr (a : List Ev) (l : List Exp) (x : Ev) (hx : isBr x = false) :
    SameBr (a ++ expEvents l) (a ++ expEvents (l ++ [.one x])) := by
  rw [expEvents_append, ← append_assoc]
  exact sameBr_append_nonbr _ x hx

theorem binv_settled (s : SState) (hi : BInv s) (he : expEmpty s.expect = true) :
    FeatLedger s.br s.out ∧ RuleLedger s.br s.out := by
  unfold BInv hist at hi
  rwa [expEvents_empty _ he, append_nil] at hi

theorem tx_sameBr (a : List Ev) (e : Ev) (l : List Exp) (hbr : isBr e = true → (takeExp e l).isSome = true) :
    SameBr (a ++ expEvents l) (a ++ [e] ++ expEvents (match (generalizing := false) e with | .scen .. => l | _ => (takeExp e l).getD l)) := by
  have nonbr : isBr e = false → SameBr (a ++ expEvents l) (a ++ [e] ++ expEvents l) := sameBr_insert_nonbr a _ e
  have hm : ((match (generalizing := false) e with | .scen .. => l | _ => (takeExp e l).getD l) = l ∧ isBr e = false) ∨
      (match (generalizing := false) e with | .scen .. => l | _ => (takeExp e l).getD l) = (takeExp e l).getD l := by
    cases e with
    | scen k r x => exact Or.inl ⟨rfl, rfl⟩
    | _ => exact Or.inr rfl
  rcases hm with ⟨h1, h2⟩ | h1
  · rw [h1]
    exact nonbr h2
  · rw [h1]
    cases ht : takeExp e l with
    | some rest =>
      refine sameBr_of_perm _ _ ?_
      rw [append_assoc]
      exact (takeExp_perm e l rest ht).append_left a
    | none => exact nonbr (by simpa [ht] using hbr)

theorem step_binv (c : SCfg) (s : SState) (l : Label) (hi : BInv s) (hg : GoodB (stepL c s l) = true) : BInv (stepL c s l) := by
  rw [goodB_step, Bool.and_eq_true] at hg
  obtain ⟨_, hf⟩ := hg
  rw [stepL_eq]
  have hi' := hi
  simp only [BInv, hist] at hi'
  cases l
  all_goals simp only [stepD, BInv, hist]
  case hookTake | pErr | pEnd => exact ledgers_congr (owe_nonbr _ _ _ rfl) hi'
  case hookRestore | disp =>
    simp [fails, notB, -all_eq_true] at hf
    simpa [expEvents] using binv_settled s hi hf
  case tx e =>
    refine ledgers_congr (tx_sameBr s.out e s.expect fun hb => ?_) hi'
    cases e <;> simp_all [fails, isBr, notB]
  case get2 t2 slots got sleep running =>
    simp [fails, notB, -all_eq_true] at hf
    rw [expEvents_map_one]
    exact startScenarios_ledgers s.br _ s.out (binv_settled s hi hf).1 (binv_settled s hi hf).2
  case idle fin sleep =>
    cases fin with
    | false => exact hi
    | true =>
      obtain ⟨b1, b2⟩ := finishAll_balances s.br (hist s) hi.1 hi.2
      refine ledgers_congr ?_ (ledgers_empty _ b1 b2)
      simp only [if_true, hist, expEvents_append, expEvents, ← append_assoc]
      exact sameBr_append_nonbr _ .finished rfl
  case notif id failed retried =>
    rcases hn : s.notifs with _ | ⟨⟨nid, k, f, r⟩, rest⟩
    all_goals simp [fails, hn, notB, -all_eq_true] at hf
    obtain ⟨⟨b', evs'⟩, hs⟩ := Option.isSome_iff_exists.mp hf.2.2
    simp only [notifFin, hn, head?_cons, Option.bind_some, hs, Option.map_some, Option.getD_some, Option.elim_some,
      isEmpty_cons, Bool.false_eq_true, if_false, expEvents_map_one]
    exact scenarioFinished_ledgers s.br b' k retried _ _ s.out evs' (binv_settled s hi hf.2.1).1
      (binv_settled s hi hf.2.1).2 hs
  all_goals exact hi

theorem foldl_binv (c : SCfg) (ls : List Label) (s : SState) (hi : BInv s) (hg : GoodB (ls.foldl (stepL c) s) = true) :
    BInv (ls.foldl (stepL c) s) :=
  all_cls_inv notB c BInv (step_binv c) ls s hi hg

theorem binv_init : BInv {} := ledgers_empty [] (fun _ => rfl) (fun _ _ => rfl)

theorem accept_balanced (c : SCfg) (ls : List Label) (hg : GoodB (accept c ls) = true)
    (hb : (accept c ls).br = Brackets.empty) (he : expEvents (accept c ls).expect = []) :
    (∀ f, cnt (.featStarted f) (accept c ls).out = cnt (.featFinished f) (accept c ls).out) ∧
    (∀ f r, cnt (.ruleStarted f r) (accept c ls).out = cnt (.ruleFinished f r) (accept c ls).out) := by
  obtain ⟨hF, hR⟩ : BInv (accept c ls) := foldl_binv c ls {} binv_init hg
  rw [hb, hist, he, append_nil] at hF hR
  exact ⟨fun f => (hF.2 f).2 (by simp [keysF, Brackets.empty]), fun f r => (hR.2 f r).2 (by simp [keysR, Brackets.empty])⟩
end

end Cuke.SchedBr
