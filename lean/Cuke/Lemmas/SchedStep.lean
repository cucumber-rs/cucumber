import Cuke.Model.SchedLts
import Cuke.Lemmas.SchedAttr
import Cuke.Lemmas.Fold
/-!
  The acceptor step `stepL` does two things at once: it moves the model state, and it appends the disagreements of the
  checks that failed. Here the two are separated: `stepD` is what a label does to every field but `dis`, `fails` lists
  the classes of the failed checks, and `stepL_eq` / `stepL_cls` say that together they are `stepL`. Every whole-run
  invariant of the scheduler is proved against this pair.
-/
namespace Cuke.SchedStep
open Cuke List

def miss (b : Bool) (cls : DClass) : List DClass := if b then [] else [cls]

@[simp] theorem miss_eq_nil (b : Bool) (cls : DClass) : miss b cls = [] ↔ b = true := by
  cases b <;> simp [miss]

@[simp] theorem all_miss (P : DClass → Bool) (b : Bool) (cls : DClass) : (miss b cls).all P = (b || P cls) := by
  cases b <;> simp [miss]

@[simp] theorem all_ite (P : DClass → Bool) (b : Prop) [Decidable b] (x y : List DClass) :
    (if b then x else y).all P = if b then x.all P else y.all P := by
  split <;> rfl

def userCodeOk (s : SState) (sc att : Nat) : Bool :=
  s.phase == .selecting && s.running.any (fun e => e.key.scen == sc && ((e.ret.map (·.retries.current)).getD 0) == att)

def starved (s : SState) : Bool := s.endedUnconsumed > 0 && s.phase == .selecting

/-- `get(Some(0))` returns before it touches the queues: no `GET1` line -/
def get2Early (s : SState) : Bool := s.slots.ask == some 0 && (s.phase == .loopTop || s.phase == .draining)

/-- the batch the model hands out at `GET2`; readiness is definite when both clock readings agree, otherwise it is
    what the implementation did -/
def get2Batch (s : SState) (t2 : Nat) (slots : Slots) (got : List Nat) : List Entry × Queues × Bool :=
  getBatch (fun e =>
    let t1 := (s.lastGet1.map (·.1)).getD t2
    if e.ready t1 == e.ready t2 then e.ready t1 else got.contains e.id) slots.ask s.q

def insNew (s : SState) (ps pc : List QE) : List (Bool × QE) :=
  (ps.map (fun p => (true, p)) ++ pc.map (fun p => (false, p))).filter
    (fun p => !((s.q.serial ++ s.q.conc).map (·.id)).contains p.2.id)

def insInitialQ (c : SCfg) (s : SState) (f : Nat) : Queues :=
  let es := newEntries c ((c.feat? f).getD ⟨f, [], [], []⟩)
  insertInitial s.q (es.filter (·.serial)) (es.filter (fun e => !e.serial))

def sameQ (q : Queues) (ps pc : List QE) : Bool := sameShapes q.serial ps false && sameShapes q.conc pc false

def adoptQ (q : Queues) (ps pc : List QE) : Queues := { serial := adoptIds q.serial ps, conc := adoptIds q.conc pc }

def followQ (c : SCfg) (s : SState) (ps pc : List QE) : Queues :=
  { serial := entriesOfProbe c (s.q.serial ++ s.q.conc) true ps, conc := entriesOfProbe c (s.q.serial ++ s.q.conc) false pc }

/-- the queues after an `INS` line: a delivered feature, or the re-insertion of a retried scenario; where the probe
    differs from what the model computes, the model follows the probe -/
def insQ (c : SCfg) (s : SState) (t : Nat) (ps pc : List QE) : Queues :=
  match s.pendingFeat with
  | some f => if sameQ (insInitialQ c s f) ps pc then adoptQ (insInitialQ c s f) ps pc else followQ c s ps pc
  | none =>
    match insNew s ps pc with
    | [(ser, p)] =>
      match s.running.find? (fun e => e.key.scen == p.scen) with
      | none => followQ c s ps pc
      | some e =>
        match nextTry e.ret true with
        | none => followQ c s ps pc
        | some o =>
          let q' := insertRetried s.q { e with id := p.id, ret := some o } t
          if sameQ q' ps pc && ser == e.serial then adoptQ q' ps pc else followQ c s ps pc
    | _ => followQ c s ps pc

def insFails (c : SCfg) (s : SState) (t : Nat) (ps pc : List QE) : List DClass :=
  match s.pendingFeat with
  | some f => miss (sameQ (insInitialQ c s f) ps pc) .Q
  | none =>
    match insNew s ps pc with
    | [(ser, p)] =>
      match s.running.find? (fun e => e.key.scen == p.scen) with
      | none => [.R]
      | some e =>
        match nextTry e.ret true with
        | none => [.R]
        | some o =>
          miss (sameQ (insertRetried s.q { e with id := p.id, ret := some o } t) ps pc && ser == e.serial) .Q
    | _ => [.Q]

/-- what `GET2` hands out and leaves queued: the model's batch if the implementation took the same entries, otherwise
    the entries the implementation names -/
def get2Out (s : SState) (t2 : Nat) (slots : Slots) (got : List Nat) : List Entry × Queues :=
  let r := get2Batch s t2 slots got
  if r.1.map (·.id) == got then (r.1, r.2.1)
  else (got.filterMap (fun i => (s.q.serial ++ s.q.conc).find? (fun e => e.id == i)),
        { serial := s.q.serial.filter (fun e => !got.contains e.id),
          conc := s.q.conc.filter (fun e => !got.contains e.id) })

def notifFin (c : SCfg) (s : SState) (retried : Bool) : Option (Brackets × List Ev) :=
  s.notifs.head?.bind fun n => scenarioFinished s.br n.2.1 retried (c.nRule n.2.1.feat (n.2.1.rule.getD 0)) (c.nFeat n.2.1.feat)

/-- the record is outermost for every label, so that a field of the next state can be read off without a case
    distinction -/
def stepD (c : SCfg) (s : SState) : Label → SState
  | .other | .verdict .. | .rx _ | .pPend | .cbIn .. | .cbOut .. | .envMove | .pWake => { s with pos := s.pos + 1 }
  | .poll => { s with pos := s.pos + 1, polledIdle := if s.phase == .idle1 || s.phase == .idle2 then true else s.polledIdle }
  | .hookTake =>
    { s with pos := s.pos + 1, hookTaken := true, slots := .cont c.limit, expect := s.expect ++ [.one .started],
             phase := .loopTop }
  | .hookRestore => { s with pos := s.pos + 1, expect := [], hookTaken := false }
  | .exit => { s with pos := s.pos + 1, exited := true, phase := .exited }
  | .tx e =>
    { s with pos := s.pos + 1, out := s.out ++ [e],
             expect := match e with
               | .scen .. => s.expect
               | _ => (takeExp e s.expect).getD s.expect }
  | .pOk f =>
    { s with pos := s.pos + 1, cFeatures := s.cFeatures + (c.feat? f).elim 0 (fun _ => 1),
             cRules := s.cRules + (c.feat? f).elim 0 (·.rules.length),
             cScenarios := s.cScenarios + (c.feat? f).elim 0 (·.countScenarios),
             cSteps := s.cSteps + (c.feat? f).elim 0 (·.countSteps),
             pendingFeat := if (c.feat? f).isSome then some f else s.pendingFeat }
  | .pErr =>
    { s with pos := s.pos + 1, cErrors := s.cErrors + 1, expect := s.expect ++ [.one (.parseErr s.nextPE)],
             nextPE := s.nextPE + 1, parserStopped := c.failFast }
  | .pEnd =>
    { s with pos := s.pos + 1,
             expect := s.expect ++ [.one (.parsingFinished s.cFeatures s.cRules s.cScenarios s.cSteps s.cErrors)] }
  | .pFinish => { s with pos := s.pos + 1, parserDone := true }
  | .ins t ps pc => { s with pos := s.pos + 1, pendingFeat := none, q := insQ c s t ps pc }
  | .get1 t ask _ _ => { s with pos := s.pos + 1, tripDue := false, phase := .afterGet1, lastGet1 := some (t, ask) }
  | .get2 t2 slots got _ _ =>
    { s with pos := s.pos + 1, tripDue := if get2Early s then false else s.tripDue, phase := .afterGet2, slots := slots,
             lastGet1 := none, q := (get2Out s t2 slots got).2, batch := (get2Out s t2 slots got).1,
             br := (startScenarios s.br (get2Out s t2 slots got).1).1,
             expect := (startScenarios s.br (get2Out s t2 slots got).1).2.map Exp.one }
  | .idle fin sleep =>
    { s with pos := s.pos + 1, phase := if fin then .exiting else .idle1, idleSleep := sleep, idleSuspended := false,
             polledIdle := false, exiting := if fin then true else s.exiting,
             br := if fin then Brackets.empty else s.br,
             expect := if fin then s.expect ++ [.anyOf (finishAll s.br).1, .anyOf (finishAll s.br).2, .one .finished]
                       else s.expect }
  | .idleYield | .idleSlept => { s with pos := s.pos + 1, phase := .idle2, idleSuspended := true }
  | .idleContinue => { s with pos := s.pos + 1, idleSuspended := true, phase := .loopTop }
  | .disp _ slots =>
    { s with pos := s.pos + 1, expect := [], phase := .selecting, slots := slots, running := s.running ++ s.batch,
             batch := [] }
  | .cons got =>
    { s with pos := s.pos + 1, phase := .draining,
             endedUnconsumed := if got then s.endedUnconsumed - 1 else s.endedUnconsumed,
             slots := if got then s.slots.onConsume else s.slots }
  | .endA id failed retried _ =>
    { s with pos := s.pos + 1, running := s.running.eraseP (fun x => x.id == id),
             endedUnconsumed := s.endedUnconsumed + ((s.running.find? (fun e => e.id == id)).elim 0 fun _ => 1),
             notifs := s.notifs ++
               ((s.running.find? (fun e => e.id == id)).elim [] fun e => [(id, e.key, failed, retried)]) }
  | .notif _ failed retried =>
    { s with pos := s.pos + 1, notifs := s.notifs.tail, br := ((notifFin c s retried).map (·.1)).getD s.br,
             expect := if s.notifs.isEmpty then s.expect else ((notifFin c s retried).elim [] (·.2)).map Exp.one,
             tripDue := if s.notifs.isEmpty then s.tripDue else tripFailFast c.failFast failed retried }
  | .brk => { s with pos := s.pos + 1, slots := .brk, tripDue := false }

def fails (c : SCfg) (s : SState) : Label → List DClass
  | .other | .verdict .. | .rx _ | .pPend | .poll | .pEnd | .pFinish => []
  | .cbIn sc att _ | .cbOut sc att _ => miss (userCodeOk s sc att) .K
  | .envMove | .pWake => miss (!starved s) .K
  | .hookTake => miss (s.phase == .init) .I
  | .hookRestore => miss (s.phase == .exiting) .I ++ miss (expEmpty s.expect) .B ++ miss s.hookTaken .I
  | .exit => miss (s.phase == .exiting) .I ++ miss (!s.hookTaken) .I
  | .tx e =>
    match e with
    | .scen k ret _ => miss (findRunning s k ret).isSome .A
    | .featStarted _ | .featFinished _ | .ruleStarted _ _ | .ruleFinished _ _ => miss (takeExp e s.expect).isSome .B
    | _ => miss (takeExp e s.expect).isSome .I
  | .pOk f => miss (!s.parserStopped) .FF ++ miss (c.feat? f).isSome .I
  | .pErr => miss (!s.parserStopped) .FF
  | .ins t ps pc => insFails c s t ps pc
  | .get1 _ ask ns nc =>
    miss (s.phase == .loopTop || s.phase == .draining) .I ++ miss s.notifs.isEmpty .FF ++ miss (!s.tripDue) .FF ++
      miss (ask == s.slots.ask) .K ++ miss (ns == s.q.serial.length && nc == s.q.conc.length) .Q
  | .get2 t2 slots got sleep running =>
    (if get2Early s then miss (!s.tripDue) .FF else miss (s.phase == .afterGet1) .I) ++
      miss (expEmpty s.expect) .B ++ miss (slots == s.slots) .K ++
      miss (running == s.running.length + s.endedUnconsumed) .K ++
      (if (get2Batch s t2 slots got).1.map (·.id) == got then miss (sleep == (get2Batch s t2 slots got).2.2) .Q
       else [.Q])
  | .idle fin _ =>
    miss (s.phase == .afterGet2) .I ++
      miss (s.running.isEmpty && s.endedUnconsumed == 0 && s.batch.isEmpty) .I ++
      miss (fin == isFinished s.parserDone s.slots.isBrk s.q) .I
  | .idleYield => miss (s.phase == .idle1) .I ++ miss (!s.idleSleep) .I
  | .idleSlept => miss (s.phase == .idle1) .I ++ miss s.idleSleep .I
  | .idleContinue =>
    miss (s.phase == .idle1 || s.phase == .idle2) .I ++ miss s.idleSuspended .I ++ miss s.polledIdle .I
  | .disp n slots =>
    miss (s.phase == .afterGet2) .I ++ miss (expEmpty s.expect) .B ++ miss (n == s.batch.length) .K ++
      miss (slots == s.slots.onDispatch s.batch.length) .K
  | .cons got => miss (s.phase == .selecting) .I ++ miss (got && s.endedUnconsumed > 0) .K
  | .endA id failed retried _ =>
    match s.running.find? (fun e => e.id == id) with
    | none => [.A]
    | some e => miss (retried == (nextTry e.ret failed).isSome) .R
  | .notif id failed retried =>
    miss (s.phase == .draining) .I ++
      match s.notifs with
      | [] => [.B]
      | (nid, k, f, r) :: _ =>
        miss (nid == id && f == failed && r == retried && !s.tripDue) .B ++ miss (expEmpty s.expect) .B ++
          miss (scenarioFinished s.br k retried (c.nRule k.feat (k.rule.getD 0)) (c.nFeat k.feat)).isSome .B
  | .brk => miss (s.phase == .draining) .I ++ miss s.tripDue .FF

/-- a conditional between two states, field by field: lets `simp` keep the state of `stepL` flat while it walks
    through the checks (a new field of `SState` needs its line here) -/
theorem ite_state (b : Prop) [Decidable b] (x y : SState) :
    (if b then x else y) =
    { q := if b then x.q else y.q,
      parserDone := if b then x.parserDone else y.parserDone,
      slots := if b then x.slots else y.slots,
      running := if b then x.running else y.running,
      endedUnconsumed := if b then x.endedUnconsumed else y.endedUnconsumed,
      notifs := if b then x.notifs else y.notifs,
      br := if b then x.br else y.br,
      out := if b then x.out else y.out,
      expect := if b then x.expect else y.expect,
      cFeatures := if b then x.cFeatures else y.cFeatures,
      cRules := if b then x.cRules else y.cRules,
      cScenarios := if b then x.cScenarios else y.cScenarios,
      cSteps := if b then x.cSteps else y.cSteps,
      cErrors := if b then x.cErrors else y.cErrors,
      pendingFeat := if b then x.pendingFeat else y.pendingFeat,
      lastGet1 := if b then x.lastGet1 else y.lastGet1,
      batch := if b then x.batch else y.batch,
      hookTaken := if b then x.hookTaken else y.hookTaken,
      exiting := if b then x.exiting else y.exiting,
      exited := if b then x.exited else y.exited,
      nextPE := if b then x.nextPE else y.nextPE,
      tripDue := if b then x.tripDue else y.tripDue,
      idleSleep := if b then x.idleSleep else y.idleSleep,
      idleSuspended := if b then x.idleSuspended else y.idleSuspended,
      polledIdle := if b then x.polledIdle else y.polledIdle,
      parserStopped := if b then x.parserStopped else y.parserStopped,
      dis := if b then x.dis else y.dis,
      pos := if b then x.pos else y.pos,
      phase := if b then x.phase else y.phase } := by
  split <;> rfl

theorem eraseP_of_find?_none {α} {p : α → Bool} {l : List α} (h : l.find? p = none) : l.eraseP p = l :=
  eraseP_of_forall_not fun a ha hp => by simpa [hp] using find?_eq_none.mp h a ha

theorem ite_then_false (b : Bool) : (if b = true then false else b) = false := by cases b <;> rfl
theorem ite_else_true (b : Bool) : (if b = true then b else true) = true := by cases b <;> rfl
theorem ite_pred (n : Nat) : (if n > 0 then n - 1 else n) = n - 1 := by split <;> omega
theorem ite_append (b : Prop) [Decidable b] (x l : List Dis) : (if b then x else x ++ l) = x ++ if b then [] else l := by
  split <;> simp
theorem append_ite (b : Prop) [Decidable b] (x l : List Dis) : (if b then x ++ l else x) = x ++ if b then l else [] := by
  split <;> simp
theorem ite_false_swap {α} (b : Bool) (x y : α) : (if b = false then x else y) = if b = true then y else x := by
  cases b <;> rfl
theorem ite_prefix (b : Prop) [Decidable b] (x l r : List Dis) :
    (if b then x ++ l else x ++ r) = x ++ if b then l else r := by
  split <;> rfl

attribute [flat_state] SState.inPhase SState.note SState.checkExpectDone SState.followQueues ite_state ite_self
  ite_then_false ite_else_true ite_pred List.nil_append Option.map_none Option.map_some Option.getD_none
  Option.getD_some List.map_nil ite_append append_ite ite_prefix Option.elim_none Option.elim_some List.tail_cons
  List.tail_nil List.isEmpty_cons List.isEmpty_nil List.head?_cons List.head?_nil Option.bind_some Option.bind_none
  Nat.add_zero List.append_nil Bool.false_eq_true if_false if_true

/-- `stepL` is `stepD` on every field but `dis`, and notes exactly the classes `fails` lists. Both halves come out of one
    pass: after the case distinctions on what the matches of `stepL` inspect, `flat_state` turns the nested checks into a
    flat record whose `dis` field is `s.dis ++ …` (splitting the `if`s instead triples the term at every check). -/
theorem stepL_split (c : SCfg) (s : SState) (l : Label) :
    { stepL c s l with dis := s.dis } = stepD c s l ∧
      (stepL c s l).dis.map (·.cls) = s.dis.map (·.cls) ++ fails c s l := by
  cases l
  case' pOk f => cases h : c.feat? f
  case' endA id failed retried t => cases h : s.running.find? (fun e => e.id == id)
  case' endA.none => have he := eraseP_of_find?_none h
  case' tx e => cases h : takeExp e s.expect <;> cases e
  case' notif id failed retried => rcases h : s.notifs with _ | ⟨⟨nid, k, f, r⟩, rest⟩
  case' notif.cons => cases h2 : scenarioFinished s.br k retried (c.nRule k.feat (k.rule.getD 0)) (c.nFeat k.feat)
  case' cons got => cases got
  case' idle fin sleep => cases fin
  case' ins t ps pc => cases hpf : s.pendingFeat
  case' ins.none => rcases hn : insNew s ps pc with _ | ⟨⟨ser, p⟩, _ | ⟨y, ys⟩⟩ <;> simp only [insNew] at hn
  case' ins.none.cons.nil => rcases hf : s.running.find? (fun e => e.key.scen == p.scen) with _ | e
  case' ins.none.cons.nil.some => cases ho : nextTry e.ret true
  case' get2 t2 slots got sleep running =>
    have hsl : (if slots == s.slots then s.slots else slots) = slots := by
      split
      · exact (eq_of_beq ‹_›).symm
      · rfl
    cases hb : (get2Batch s t2 slots got).1.map (·.id) == got <;> simp only [get2Batch] at hb
  all_goals simp only [stepL, stepD, fails, insFails, insQ, insNew, insInitialQ, sameQ, adoptQ, followQ, notifFin,
    get2Out, get2Batch, get2Early, *, flat_state, true_and]
  -- the first half is closed by `simp` or holds by `rfl`; what is left is the list of classes, up to the spelling of
  -- the conditions (`pWake` / `envMove`: `0 < n` against `n ≠ 0`)
  all_goals try refine ⟨rfl, ?_⟩
  all_goals simp [miss, apply_ite (List.map (fun x : Dis => x.cls)), starved, userCodeOk, findRunning, ite_false_swap]
  all_goals split <;> simp_all [Nat.pos_iff_ne_zero]

theorem stepL_cls (c : SCfg) (s : SState) (l : Label) :
    (stepL c s l).dis.map (·.cls) = s.dis.map (·.cls) ++ fails c s l := (stepL_split c s l).2

theorem stepL_eq (c : SCfg) (s : SState) (l : Label) :
    stepL c s l = { stepD c s l with dis := (stepL c s l).dis } := by
  rw [← (stepL_split c s l).1]

theorem all_cls_step (P : DClass → Bool) (c : SCfg) (s : SState) (l : Label) :
    (stepL c s l).dis.all (fun d => P d.cls) = (s.dis.all (fun d => P d.cls) && (fails c s l).all P) := by
  have h := congrArg (fun x => x.all P) (stepL_cls c s l)
  simpa only [all_map, all_append, Function.comp_def] using h

theorem any_cls_step (P : DClass → Bool) (c : SCfg) (s : SState) (l : Label) :
    (stepL c s l).dis.any (fun d => P d.cls) = (s.dis.any (fun d => P d.cls) || (fails c s l).any P) := by
  have h := congrArg (fun x => x.any P) (stepL_cls c s l)
  simpa only [any_map, any_append, Function.comp_def] using h

theorem clean_step {c : SCfg} {s : SState} {l : Label} (h : (stepL c s l).dis = []) :
    s.dis = [] ∧ fails c s l = [] ∧ stepL c s l = stepD c s l := by
  have hc := stepL_cls c s l
  rw [h, map_nil, eq_comm, append_eq_nil_iff, map_eq_nil_iff] at hc
  refine ⟨hc.1, hc.2, ?_⟩
  rw [← (stepL_split c s l).1, hc.1, ← h]

/-! ### what an accepted `GET2` / `INS` gives -/

theorem get2Out_eq {s : SState} {t2 : Nat} {slots : Slots} {got : List Nat}
    (h : (get2Batch s t2 slots got).1.map (·.id) = got) :
    get2Out s t2 slots got = ((get2Batch s t2 slots got).1, (get2Batch s t2 slots got).2.1) := by
  simp [get2Out, h]

theorem ins_cases {P : DClass → Bool} (hR : P .R = false) (hQ : P .Q = false) {c : SCfg} {s : SState} {t : Nat}
    {ps pc : List QE} (hf : (insFails c s t ps pc).all P = true) :
    (∃ f, s.pendingFeat = some f ∧ sameQ (insInitialQ c s f) ps pc = true ∧
        insQ c s t ps pc = adoptQ (insInitialQ c s f) ps pc) ∨
    (s.pendingFeat = none ∧ ∃ ser p e o, insNew s ps pc = [(ser, p)] ∧
        s.running.find? (fun e => e.key.scen == p.scen) = some e ∧ nextTry e.ret true = some o ∧
        sameQ (insertRetried s.q { e with id := p.id, ret := some o } t) ps pc = true ∧
        insQ c s t ps pc = adoptQ (insertRetried s.q { e with id := p.id, ret := some o } t) ps pc) := by
  cases hpf : s.pendingFeat with
  | some f =>
    simp [insFails, hpf, hQ, -all_eq_true] at hf
    exact Or.inl ⟨f, rfl, hf, by simp only [insQ, hpf, hf, if_true]⟩
  | none =>
    rcases hn : insNew s ps pc with _ | ⟨⟨ser, p⟩, _ | ⟨y, ys⟩⟩
    all_goals simp [insFails, hpf, hn, hQ, -all_eq_true] at hf
    cases hr : s.running.find? (fun e => e.key.scen == p.scen) with
    | none => simp [hr, hR] at hf
    | some e =>
      cases ho : nextTry e.ret true with
      | none => simp [hr, ho, hR] at hf
      | some o =>
        simp [hr, ho, hQ, -all_eq_true] at hf
        refine Or.inr ⟨rfl, ser, p, e, o, rfl, hr, ho, hf.1, ?_⟩
        simp only [insQ, hpf, hn, hr, ho]
        exact if_pos (by simp [hf])


theorem all_cls_foldl (P : DClass → Bool) (c : SCfg) : ∀ (ls : List Label) (s : SState),
    (ls.foldl (stepL c) s).dis.all (fun d => P d.cls) = true → s.dis.all (fun d => P d.cls) = true :=
  foldl_mono (stepL c) (fun s => s.dis.all (fun d => P d.cls) = true) fun s l h => by
    rw [all_cls_step, Bool.and_eq_true] at h
    exact h.1

/-- an invariant of the steps that note nothing of a class outside `P` holds at the end of every log replayed without
    a disagreement outside `P` -/
theorem all_cls_inv (P : DClass → Bool) (c : SCfg) (Inv : SState → Prop)
    (step : ∀ s l, Inv s → (stepL c s l).dis.all (fun d => P d.cls) = true → Inv (stepL c s l)) :
    ∀ (ls : List Label) (s : SState), Inv s → (ls.foldl (stepL c) s).dis.all (fun d => P d.cls) = true →
      Inv (ls.foldl (stepL c) s) := by
  intro ls
  induction ls with
  | nil => exact fun _ h _ => h
  | cons l rest ih => exact fun s h hg => ih _ (step s l h (all_cls_foldl P c rest _ hg)) hg

/-- … with a ghost state `g` computed alongside the replay -/
theorem foldl_inv {γ : Type} (P : DClass → Bool) (c : SCfg) (g : SState → γ → Label → γ) (Inv : SState → γ → Prop)
    (step : ∀ s x l, Inv s x → (stepL c s l).dis.all (fun d => P d.cls) = true → Inv (stepL c s l) (g s x l)) :
    ∀ (ls : List Label) (s : SState) (x : γ), Inv s x → (ls.foldl (stepL c) s).dis.all (fun d => P d.cls) = true →
      Inv (ls.foldl (stepL c) s) (ls.foldl (fun sx l => (stepL c sx.1 l, g sx.1 sx.2 l)) (s, x)).2 :=
  foldl_ghost_inv (stepL c) g (fun s => s.dis.all (fun d => P d.cls) = true) (fun s l => all_cls_foldl P c [l] s) Inv step

end Cuke.SchedStep
