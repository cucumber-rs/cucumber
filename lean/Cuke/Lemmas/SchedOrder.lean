import Cuke.Lemmas.SchedBrackets
import Cuke.Lemmas.SchedConserve
import Cuke.Lemmas.SchedRun
/-!
  C03, an ORDER clause over whole runs of the scheduler LTS: a scenario event is only ever sent after the
  `Feature::Started` of its feature (and the `Rule::Started` of its rule). For every log replayed without any
  disagreement: the features / rules of a batch are open in the bookkeeping when `get` returns; by the bracket
  ledger their Started is sent or owed; at dispatch nothing is owed any more; and scenario events are only accepted
  from dispatched attempts.
-/
namespace Cuke.SchedOrd
open Cuke List Cuke.BrL Cuke.SchedL Cuke.SchedInv Cuke.SchedBr Cuke.SchedCons


theorem clean0_all (s : SState) (h : Clean0 s = true) : Good s = true ∧ GoodB s = true ∧ Clean s = true := by
  simp [Good, GoodB, Clean, clean0_iff.mp h]

def OpenIn (b : Brackets) (e : Entry) : Prop :=
  e.key.feat ∈ keysF b ∧ ∀ r, e.key.rule = some r → (e.key.feat, r) ∈ keysR b

def StartedIn (out : List Ev) (e : Entry) : Prop :=
  Ev.featStarted e.key.feat ∈ out ∧ ∀ r, e.key.rule = some r → Ev.ruleStarted e.key.feat r ∈ out

def OInv (s : SState) : Prop :=
  BInv s ∧ (∀ e ∈ s.batch, OpenIn s.br e) ∧ (∀ e ∈ s.running, StartedIn s.out e)

theorem addFeats_mem {α} [BEq α] [LawfulBEq α] (fs : List α) (acc : List (α × Nat) × List α) (f : α)
    (h : f ∈ fs ∨ f ∈ acc.1.map (·.1)) : f ∈ (addFeats fs acc).1.map (·.1) := by
  induction fs generalizing acc with
  | nil =>
    rcases h with h | h
    · cases h
    · exact h
  | cons x xs ih =>
    simp only [addFeats, foldl_cons]
    apply ih
    rcases h with h | h
    · rcases mem_cons.mp h with rfl | h
      · right
        split
        · rename_i hany
          obtain ⟨e, he, hef⟩ := any_eq_true.mp hany
          have : e.1 = f := by simpa using hef
          exact mem_map.mpr ⟨e, he, this⟩
        · simp
      · exact Or.inl h
    · right
      split
      · exact h
      · simp only [map_append, mem_append]; exact Or.inl h

theorem mem_dedupAdj {α} [BEq α] [LawfulBEq α] (l : List α) (x : α) (h : x ∈ l) : x ∈ dedupAdj l := by
  induction l with
  | nil => cases h
  | cons a rest ih =>
    cases rest with
    | nil => simpa [dedupAdj] using h
    | cons b rest2 =>
      simp only [dedupAdj]
      split
      · rename_i hab
        have : a = b := by simpa using hab
        rcases mem_cons.mp h with rfl | h
        · exact ih (by simp [this])
        · exact ih h
      · rcases mem_cons.mp h with rfl | h
        · simp
        · exact mem_cons_of_mem _ (ih h)

theorem startScenarios_opens (b : Brackets) (batch : List Entry) (e : Entry) (he : e ∈ batch) :
    OpenIn (startScenarios b batch).1 e := by
  obtain ⟨hf, hr, _⟩ := startScenarios_parts b batch
  constructor
  · simp only [keysF, hf]
    apply addFeats_mem
    left
    exact mem_dedupAdj _ _ (mem_map.mpr ⟨e, he, rfl⟩)
  · intro r hrule
    simp only [keysR, hr]
    apply addFeats_mem
    left
    apply mem_dedupAdj
    simp only [mem_filterMap]
    exact ⟨e, he, by simp [hrule]⟩

theorem open_started_in_hist (s : SState) (hb : BInv s) (e : Entry) (ho : OpenIn s.br e) :
    Ev.featStarted e.key.feat ∈ hist s ∧ ∀ r, e.key.rule = some r → Ev.ruleStarted e.key.feat r ∈ hist s := by
  constructor
  · have := (hb.1.2 e.key.feat).1 ho.1
    have hpos : 0 < cnt (.featStarted e.key.feat) (hist s) := by omega
    simpa [cnt] using count_pos_iff.mp hpos
  · intro r hr
    have := (hb.2.2 e.key.feat r).1 (ho.2 r hr)
    have hpos : 0 < cnt (.ruleStarted e.key.feat r) (hist s) := by omega
    simpa [cnt] using count_pos_iff.mp hpos

theorem br_disp (c : SCfg) (s : SState) (n : Nat) (sl : Slots) : (stepL c s (.disp n sl)).br = s.br := by
  rw [SchedStep.stepL_eq]; rfl

section
open Cuke.SchedStep

theorem nobatch_accept (c : SCfg) (ls : List Label) (hc : Clean0 (accept c ls) = true) : NoBatch (accept c ls) :=
  clean0_accept c (fun _ => NoBatch) (fun _ => rfl) (fun _ s l h hd => nobatch_step c s l h (by simp [hd])) ls hc

theorem step_oinv (c : SCfg) (s : SState) (l : Label) (h : OInv s) (hbatch : NoBatch s)
    (hd : (stepL c s l).dis = []) : OInv (stepL c s l) := by
  have hb := step_binv c s l h.1 (by simp [GoodB, hd])
  obtain ⟨-, hf, e⟩ := clean_step hd
  rw [e] at hb ⊢
  refine ⟨hb, ?_⟩
  obtain ⟨hi, hop, hst⟩ := h
  cases l
  all_goals simp [fails] at hf
  all_goals simp only [stepD]
  case tx e =>
    exact ⟨hop, fun x hx => ⟨mem_append_left _ (hst x hx).1, fun r hr => mem_append_left _ ((hst x hx).2 r hr)⟩⟩
  case get2 => exact ⟨fun x hx => startScenarios_opens _ _ x hx, hst⟩
  case idle => exact ⟨by simp [hf.2.1.2], hst⟩
  case notif => exact ⟨by simp [hbatch (by simp [hf.1])], hst⟩
  case endA => exact ⟨hop, fun x hx => hst x (mem_of_mem_eraseP hx)⟩
  case disp =>
    -- at dispatch nothing is owed any more: what the ledger owes for the batch's features has been sent
    have hhist : hist s = s.out := by simp [hist, expEvents_empty _ hf.2.1]
    refine ⟨by simp, fun x hx => ?_⟩
    rcases mem_append.mp hx with hx | hx
    · exact hst x hx
    · exact hhist ▸ open_started_in_hist s hi x (hop x hx)
  all_goals exact ⟨hop, hst⟩

theorem oinv_init : OInv {} := ⟨binv_init, fun _ he => (nomatch he), fun _ he => (nomatch he)⟩

theorem accept_oinv (c : SCfg) (ls : List Label) (hc : Clean0 (accept c ls) = true) : OInv (accept c ls) :=
  (clean0_accept c (fun _ s => OInv s ∧ NoBatch s) ⟨oinv_init, fun _ => rfl⟩
    (fun _ s l h hd => ⟨step_oinv c s l h.1 h.2 hd, nobatch_step c s l h.2 (by simp [hd])⟩) ls hc).1

end

end Cuke.SchedOrd
