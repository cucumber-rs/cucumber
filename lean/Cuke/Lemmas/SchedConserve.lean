import Cuke.Lemmas.SchedRetry
/-!
  C04 over whole runs of the scheduler LTS: ATTEMPTS ARE CONSERVED. Two ghost logs are kept alongside the
  replay — the scenario ids of every entry `Features::insert` / `insert_retried_scenario` created (`ins`), and the
  scenario ids of every attempt whose END was seen (`ended`). For every log replayed without a disagreement of the
  classes R, Q, K, I:      ins  ~  (queued ++ handed out ++ running) ++ ended      (as multisets).
  So when the run exits with empty queues and nothing in flight, every entry ever created has run to its end —
  every scenario of every delivered feature at least once, every granted retry exactly once — and nothing else.
-/
namespace Cuke.SchedCons
open Cuke List Cuke.SchedL Cuke.SchedInv Cuke.SchedRetry

def Clean (s : SState) : Bool :=
  s.dis.all (fun d => d.cls != .R && d.cls != .Q && d.cls != .K && d.cls != .I)

theorem clean_good (s : SState) (h : Clean s = true) : Good s = true ∧ GoodRQ s = true := by
  simp only [Clean, Good, GoodRQ, all_eq_true, Bool.and_eq_true] at h ⊢
  exact ⟨fun d hd => ⟨⟨(h d hd).1.2, (h d hd).2⟩, (h d hd).1.1.2⟩, fun d hd => ⟨(h d hd).1.1.1, (h d hd).1.1.2⟩⟩

def notI (x : DClass) : Bool := x != .I

theorem clean_notI (s : SState) (h : Clean s = true) : s.dis.all (fun d => notI d.cls) = true :=
  all_eq_true.mpr fun d hd => (Bool.and_eq_true _ _ ▸ all_eq_true.mp h d hd).2

def scens (l : List Entry) : List Nat := l.map (·.key.scen)

/-- the scenario ids of the entries an `INS` label creates (what the model computes in its accepting branches) -/
def insAdds (c : SCfg) (s : SState) (ps pc : List QE) : List Nat :=
  match s.pendingFeat with
  | some f => scens (newEntries c ((c.feat? f).getD ⟨f, [], [], []⟩))
  | none =>
    let known := (s.q.serial ++ s.q.conc).map (·.id)
    let fresh := (ps.map (fun p => (true, p)) ++ pc.map (fun p => (false, p))).filter (fun p => !known.contains p.2.id)
    match fresh with
    | [(_, p)] =>
      match s.running.find? (fun e => e.key.scen == p.scen) with
      | some e => if (nextTry e.ret true).isSome then [e.key.scen] else []
      | none => []
    | _ => []

def endAdds (s : SState) (id : Nat) : List Nat :=
  match s.running.find? (fun e => e.id == id) with
  | some e => [e.key.scen]
  | none => []

/-- the ghost logs: (created, ended) -/
def gstep (c : SCfg) (s : SState) (g : List Nat × List Nat) : Label → List Nat × List Nat
  | .ins _ ps pc => (g.1 ++ insAdds c s ps pc, g.2)
  | .endA id _ _ _ => (g.1, g.2 ++ endAdds s id)
  | _ => g

def runG (c : SCfg) (ls : List Label) (sg : SState × (List Nat × List Nat)) : SState × (List Nat × List Nat) :=
  ls.foldl (fun sg l => (stepL c sg.1 l, gstep c sg.1 sg.2 l)) sg

def NoBatch (s : SState) : Prop := s.phase ≠ .afterGet2 → s.batch = []

def CInv (s : SState) (g : List Nat × List Nat) : Prop := g.1 ~ scens (ents s) ++ g.2 ∧ NoBatch s

theorem scens_append (a b : List Entry) : scens (a ++ b) = scens a ++ scens b := by simp [scens]

theorem scens_perm (a b : List Entry) (h : a ~ b) : scens a ~ scens b := h.map _

theorem gstep_other (c : SCfg) (s : SState) (g : List Nat × List Nat) (l : Label)
    (h1 : ∀ t a b, l ≠ .ins t a b) (h2 : ∀ id f r t, l ≠ .endA id f r t) : gstep c s g l = g := by
  cases l <;> first | rfl | (exact absurd rfl (h1 _ _ _)) | (exact absurd rfl (h2 _ _ _ _))

theorem perm_eraseP_of_find {α} (p : α → Bool) (l : List α) (a : α) (h : l.find? p = some a) : l ~ a :: l.eraseP p := by
  induction l with
  | nil => simp at h
  | cons b rest ih =>
    by_cases hp : p b = true
    · simp only [find?, hp, Option.some.injEq] at h
      subst h
      simp [hp]
    · have hp' : p b = false := by simpa using hp
      simp only [find?, hp'] at h
      simp only [eraseP_cons, hp']
      exact ((ih h).cons b).trans (Perm.swap a b _)

theorem insertRetried_perm (q : Queues) (e : Entry) (now : Nat) :
    scens ((insertRetried q e now).serial ++ (insertRetried q e now).conc) ~ e.key.scen :: scens (q.serial ++ q.conc) :=
  (insertRetried_entries q e now).map _

theorem scens_adoptIds (model : List Entry) (probe : List QE) (h : model.length = probe.length) :
    scens (adoptIds model probe) = scens model := by
  induction model generalizing probe with
  | nil => simp [adoptIds, scens]
  | cons m ms ih =>
    cases probe with
    | nil => simp at h
    | cons p ps =>
      simp only [length_cons, Nat.add_right_cancel_iff] at h
      have := ih ps h
      simp only [adoptIds, scens, zip_cons_cons, map_cons] at this ⊢
      rw [this]

theorem sameShapes_length (model : List Entry) (probe : List QE) (b : Bool) (h : sameShapes model probe b = true) :
    model.length = probe.length := by
  simp only [sameShapes, Bool.and_eq_true, beq_iff_eq] at h
  exact h.1

theorem perm_insert {α} {g a a' t e : List α} (h : g ~ a ++ t) (ha : a' ~ a ++ e) : g ++ e ~ a' ++ t := by
  refine (h.append_right e).trans (Perm.trans ?_ (ha.symm.append_right t))
  simp only [append_assoc]
  exact Perm.append_left a perm_append_comm

section
open Cuke.SchedStep

def rqki (x : DClass) : Bool := x != .R && x != .Q && x != .K && x != .I

theorem clean_step_eq (c : SCfg) (s : SState) (l : Label) :
    Clean (stepL c s l) = (Clean s && (fails c s l).all rqki) := all_cls_step rqki c s l

theorem scens_adoptQ (q : Queues) (ps pc : List QE) (h : sameQ q ps pc = true) :
    scens ((adoptQ q ps pc).serial ++ (adoptQ q ps pc).conc) = scens (q.serial ++ q.conc) := by
  simp only [sameQ, Bool.and_eq_true] at h
  simp only [adoptQ, scens_append, scens_adoptIds _ _ (sameShapes_length _ _ _ h.1),
    scens_adoptIds _ _ (sameShapes_length _ _ _ h.2)]

theorem insQ_scens (c : SCfg) (s : SState) (t : Nat) (ps pc : List QE) (hf : (insFails c s t ps pc).all rqki = true) :
    scens ((insQ c s t ps pc).serial ++ (insQ c s t ps pc).conc) ~ scens (s.q.serial ++ s.q.conc) ++ insAdds c s ps pc := by
  rcases ins_cases rfl rfl hf with ⟨f, hpf, hs, e⟩ | ⟨hpf, ser, p, e1, o, hn, hr, ho, hs, e⟩
  · rw [e, scens_adoptQ _ _ _ hs]
    simp only [insAdds, hpf]
    refine (scens_perm _ _ (insertInitial_perm _ _ _)).trans ?_
    rw [scens_append]
    exact Perm.append_left _ (scens_perm _ _ (filter_append_perm _ _))
  · rw [e, scens_adoptQ _ _ _ hs]
    simp only [insNew] at hn
    simp only [insAdds, hpf, hn, hr, ho, Option.isSome_some, if_true]
    exact (insertRetried_perm _ _ _).trans (perm_append_singleton _ _).symm

/-- the phase checks (class I) keep a batch from being held outside `GET2` … dispatch -/
theorem nobatch_step (c : SCfg) (s : SState) (l : Label) (h : NoBatch s)
    (hI : (stepL c s l).dis.all (fun d => notI d.cls) = true) : NoBatch (stepL c s l) := by
  rw [all_cls_step, Bool.and_eq_true] at hI
  obtain ⟨_, hf⟩ := hI
  rw [stepL_eq]
  have hne : ∀ p, s.phase = p → p ≠ .afterGet2 → s.batch = [] := fun p hp hn => h (hp ▸ hn)
  cases l
  all_goals simp [fails, notI, -all_eq_true] at hf
  all_goals simp only [stepD, NoBatch]
  case hookTake | cons => exact fun _ => hne _ hf (by decide)
  case exit | idleYield | idleSlept => exact fun _ => hne _ hf.1 (by decide)
  case get1 => rcases hf with hp | hp <;> exact fun _ => hne _ hp (by decide)
  case get2 => exact fun hp => absurd rfl hp
  case idle => exact fun _ => hf.2.1.2
  case idleContinue => rcases hf.1 with hp | hp <;> exact fun _ => hne _ hp (by decide)
  case disp => exact fun _ => trivial
  all_goals exact h

theorem step_cinv (c : SCfg) (s : SState) (g : List Nat × List Nat) (l : Label) (h : CInv s g)
    (hc : Clean (stepL c s l) = true) : CInv (stepL c s l) (gstep c s g l) := by
  refine ⟨?_, nobatch_step c s l h.2 (clean_notI _ hc)⟩
  rw [clean_step_eq, Bool.and_eq_true] at hc
  obtain ⟨_, hf⟩ := hc
  rw [stepL_eq]
  obtain ⟨h1, h2⟩ := h
  simp only [ents] at h1
  cases l
  all_goals simp only [stepD, ents, gstep]
  case ins t ps pc =>
    have e : ∀ X : List Entry, scens (X ++ s.batch ++ s.running) ++ g.2 = scens X ++ (scens s.batch ++ scens s.running ++ g.2) :=
      fun X => by simp only [scens_append, append_assoc]
    rw [e] at h1 ⊢
    exact perm_insert h1 (insQ_scens c s t ps pc hf)
  case get2 t2 slots got sleep running =>
    simp [fails, rqki, -all_eq_true] at hf
    obtain ⟨hph, -, -, hq⟩ := hf
    have hb : s.batch = [] := h2 fun hp => by simp [get2Early, hp] at hph
    refine h1.trans (Perm.append_right _ (scens_perm _ _ (Perm.append_right _ ?_)))
    rw [get2Out_eq hq.1, hb, append_nil]
    exact (perm_append_comm.trans (getBatch_perm _ _ _)).symm
  case disp n slots =>
    refine h1.trans (Perm.append_right _ (scens_perm _ _ ?_))
    simp only [append_nil, append_assoc]
    exact Perm.append_left _ (Perm.append_left _ perm_append_comm)
  case endA id failed retried t =>
    cases hfd : s.running.find? (fun e => e.id == id) with
    | none => simpa [endAdds, hfd, eraseP_of_find?_none hfd] using h1
    | some e =>
      simp only [endAdds, hfd, scens_append, append_assoc] at h1 ⊢
      refine h1.trans (Perm.append_left _ (Perm.append_left _ (Perm.append_left _ ?_)))
      rw [← append_assoc]
      exact ((scens_perm _ _ (perm_eraseP_of_find _ _ _ hfd)).append_right _).trans (perm_append_singleton _ _).symm
  all_goals exact h1

theorem runG_state (c : SCfg) (ls : List Label) (sg : SState × (List Nat × List Nat)) :
    (runG c ls sg).1 = ls.foldl (stepL c) sg.1 := foldl_ghost_fst (stepL c) (gstep c) ls sg.1 sg.2

theorem runG_cinv (c : SCfg) (ls : List Label) (sg : SState × (List Nat × List Nat)) (h : CInv sg.1 sg.2)
    (hc : Clean (runG c ls sg).1 = true) : CInv (runG c ls sg).1 (runG c ls sg).2 :=
  runG_state c ls sg ▸ foldl_inv rqki c (gstep c) CInv (fun s g l hi hd => step_cinv c s g l hi hd) ls sg.1 sg.2 h
    (runG_state c ls sg ▸ hc)
end

theorem cinv_init : CInv {} ([], []) := ⟨by simp [ents, scens, Queues.empty], fun _ => rfl⟩

end Cuke.SchedCons
