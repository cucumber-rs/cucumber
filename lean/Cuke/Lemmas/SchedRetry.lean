import Cuke.Lemmas.SchedInv
/-!
  C05 over whole runs of the scheduler LTS: every entry the scheduler ever holds (queued, in the batch just
  taken, or running) DESCENDS from the entry `Features::insert` built for a scenario of a delivered feature:
  same scenario, same serial flag, and its retry options are the initial ones moved `k` steps by
  `next_try` — `current + left` is constant, the delay is unchanged, and "no options" stays "no options".
  So no attempt numbered beyond the configured budget is ever queued or dispatched, in any run of any length.
  `GoodRQ` = the log raised no disagreement of the classes the retry bookkeeping depends on (R, Q).
-/
namespace Cuke.SchedCons
open Cuke List Cuke.SchedL

theorem getBatch_perm (ready : Entry → Bool) (ask : Option Nat) (q : Queues) :
    (getBatch ready ask q).1 ++ ((getBatch ready ask q).2.1.serial ++ (getBatch ready ask q).2.1.conc) ~
      q.serial ++ q.conc := by
  unfold getBatch
  by_cases h0 : (ask == some 0) = true
  · simp [h0]
  · simp only [h0, Bool.false_eq_true, if_false]
    have hs := drainQ_perm ready (some 1) q.serial
    have hc := drainQ_perm ready ask q.conc
    split
    · simp only
      rw [← append_assoc]
      exact hs.append_right _
    · rename_i hne
      have hnil : (drainQ ready (some 1) q.serial).1 = [] := by simpa using hne
      rw [hnil] at hs
      simp only [nil_append] at hs
      simp only
      have : (drainQ ready ask q.conc).1 ++ ((drainQ ready (some 1) q.serial).2.1 ++ (drainQ ready ask q.conc).2.1) ~
          (drainQ ready (some 1) q.serial).2.1 ++ ((drainQ ready ask q.conc).1 ++ (drainQ ready ask q.conc).2.1) := by
        rw [← append_assoc, ← append_assoc]
        exact perm_append_comm.append_right _
      exact this.trans (hs.append hc)

theorem insertInitial_perm (q : Queues) (ns nc : List Entry) :
    (insertInitial q ns nc).serial ++ (insertInitial q ns nc).conc ~ (q.serial ++ q.conc) ++ (ns ++ nc) := by
  unfold insertInitial
  by_cases h : ns.isEmpty = true
  · have : ns = [] := by simpa using h
    subst this
    simp [append_assoc]
  · simp only [h, Bool.false_eq_true, if_false]
    by_cases h2 : nc.isEmpty = true
    · have : nc = [] := by simpa using h2
      subst this
      simp only [isEmpty_nil, if_true, append_nil]
      rw [append_assoc]
      have : ns ++ (q.serial ++ q.conc) ~ (q.serial ++ q.conc) ++ ns := perm_append_comm
      simpa [append_assoc] using this
    · simp only [h2, Bool.false_eq_true, if_false]
      have h1 : ns ++ q.serial ++ (nc ++ q.conc) ~ (q.serial ++ ns) ++ (q.conc ++ nc) :=
        perm_append_comm.append perm_append_comm
      refine h1.trans ?_
      simp only [append_assoc]
      refine Perm.append_left _ ?_
      rw [← append_assoc, ← append_assoc]
      exact perm_append_comm.append_right _

theorem insertRetried_entries (q : Queues) (e : Entry) (now : Nat) :
    (insertRetried q e now).serial ++ (insertRetried q e now).conc ~
      { e with t0 := (e.ret.bind (·.after)).map fun _ => now } :: (q.serial ++ q.conc) := by
  unfold insertRetried
  by_cases h : e.serial = true
  · simp [h]
  · simp only [h, Bool.false_eq_true, if_false]
    exact perm_middle

end Cuke.SchedCons

namespace Cuke.SchedRetry
open Cuke List Cuke.SchedL Cuke.SchedInv

def GoodRQ (s : SState) : Bool := s.dis.all (fun d => d.cls != .R && d.cls != .Q)

def ents (s : SState) : List Entry := s.q.serial ++ s.q.conc ++ s.batch ++ s.running

def retDesc : Option RetryOptions → Option RetryOptions → Prop
  | none, none => True
  | some o0, some o => o.retries.current + o.retries.left = o0.retries.current + o0.retries.left ∧ o.after = o0.after
  | _, _ => False

def Desc (e0 e : Entry) : Prop := e.key = e0.key ∧ e.serial = e0.serial ∧ retDesc e0.ret e.ret

def Origin (c : SCfg) (e0 : Entry) : Prop := ∃ ft ∈ c.feats, e0 ∈ newEntries c ft

def RInv (c : SCfg) (s : SState) : Prop := ∀ e ∈ ents s, ∃ e0, Origin c e0 ∧ Desc e0 e

theorem rinv_init (c : SCfg) : RInv c ({} : SState) := by
  intro e he
  simp [ents, Queues.empty] at he

theorem retDesc_refl (r : Option RetryOptions) : retDesc r r := by
  cases r <;> simp [retDesc]

theorem nextTry_values {o o' : RetryOptions} (h : nextTry (some o) true = some o') :
    o'.retries.current = o.retries.current + 1 ∧ o'.retries.left + 1 = o.retries.left ∧ o'.after = o.after := by
  unfold nextTry RetryOptions.nextTry Retries.nextTry at h
  simp only [if_true] at h
  by_cases hl : o.retries.left = 0
  · simp [hl] at h
  · simp only [hl, if_false, Option.some.injEq] at h
    subst h
    simp; omega

theorem retDesc_next (r0 r : Option RetryOptions) (o : RetryOptions) (h : retDesc r0 r) (hn : nextTry r true = some o) :
    retDesc r0 (some o) := by
  cases r with
  | none => simp [nextTry] at hn
  | some o1 =>
    cases r0 with
    | none => simp [retDesc] at h
    | some o0 =>
      obtain ⟨h1, h2, h3⟩ := nextTry_values hn
      simp only [retDesc] at h ⊢
      exact ⟨by omega, h3.trans h.2⟩

theorem mem_adoptIds (model : List Entry) (probe : List QE) (e' : Entry) (h : e' ∈ adoptIds model probe) :
    ∃ e ∈ model, e'.key = e.key ∧ e'.serial = e.serial ∧ e'.ret = e.ret := by
  simp only [adoptIds, mem_map] at h
  obtain ⟨p, hp, rfl⟩ := h
  exact ⟨p.1, (of_mem_zip hp).1, rfl, rfl, rfl⟩

theorem mem_insertInitial (q : Queues) (a b : List Entry) (e : Entry)
    (h : e ∈ (insertInitial q a b).serial ++ (insertInitial q a b).conc) :
    e ∈ q.serial ++ q.conc ∨ e ∈ a ∨ e ∈ b := by
  simpa only [mem_append] using (SchedCons.insertInitial_perm q a b).mem_iff.mp h

theorem mem_insertRetried (q : Queues) (ne : Entry) (now : Nat) (e : Entry)
    (h : e ∈ (insertRetried q ne now).serial ++ (insertRetried q ne now).conc) :
    e ∈ q.serial ++ q.conc ∨ (e.key = ne.key ∧ e.serial = ne.serial ∧ e.ret = ne.ret) := by
  rcases mem_cons.mp ((SchedCons.insertRetried_entries q ne now).mem_iff.mp h) with rfl | h
  · exact Or.inr ⟨rfl, rfl, rfl⟩
  · exact Or.inl h

theorem mem_drainQ (ready : Entry → Bool) (cnt : Option Nat) (l : List Entry) (e : Entry)
    (h : e ∈ (drainQ ready cnt l).1 ∨ e ∈ (drainQ ready cnt l).2.1) : e ∈ l :=
  h.elim (fun h => (drainQ_sublist ready cnt l).1.subset h) fun h => (drainQ_sublist ready cnt l).2.subset h

theorem mem_getBatch (ready : Entry → Bool) (ask : Option Nat) (q : Queues) (e : Entry)
    (h : e ∈ (getBatch ready ask q).1 ∨ e ∈ (getBatch ready ask q).2.1.serial ∨ e ∈ (getBatch ready ask q).2.1.conc) :
    e ∈ q.serial ++ q.conc :=
  (SchedCons.getBatch_perm ready ask q).mem_iff.mp (by simpa only [mem_append] using h)

theorem followQueues_dis (s : SState) (c : SCfg) (ps pc : List QE) : (s.followQueues c ps pc).dis = s.dis := rfl

section
open Cuke.SchedStep

def rq (x : DClass) : Bool := x != .R && x != .Q

theorem goodRQ_step (c : SCfg) (s : SState) (l : Label) :
    GoodRQ (stepL c s l) = (GoodRQ s && (fails c s l).all rq) := all_cls_step rq c s l

theorem desc_congr {c : SCfg} {e e' : Entry} (hk : e'.key = e.key) (hs : e'.serial = e.serial) (hr : e'.ret = e.ret)
    (h : ∃ e0, Origin c e0 ∧ Desc e0 e) : ∃ e0, Origin c e0 ∧ Desc e0 e' := by
  obtain ⟨e0, ho, hd⟩ := h
  unfold Desc at *
  rw [hk, hs, hr]
  exact ⟨e0, ho, hd⟩

theorem adoptQ_desc (c : SCfg) (q : Queues) (ps pc : List QE)
    (h : ∀ x ∈ q.serial ++ q.conc, ∃ e0, Origin c e0 ∧ Desc e0 x) :
    ∀ e ∈ (adoptQ q ps pc).serial ++ (adoptQ q ps pc).conc, ∃ e0, Origin c e0 ∧ Desc e0 e := by
  intro e he
  rcases mem_append.mp he with he | he
  · obtain ⟨x, hx, h1, h2, h3⟩ := mem_adoptIds _ _ e he
    exact desc_congr h1 h2 h3 (h x (mem_append_left _ hx))
  · obtain ⟨x, hx, h1, h2, h3⟩ := mem_adoptIds _ _ e he
    exact desc_congr h1 h2 h3 (h x (mem_append_right _ hx))

theorem newEntries_origin (c : SCfg) (f : Nat) (x : Entry)
    (hx : x ∈ newEntries c ((c.feat? f).getD ⟨f, [], [], []⟩)) : ∃ e0, Origin c e0 ∧ Desc e0 x := by
  cases hft : c.feat? f with
  | none => simp [hft, newEntries, featScenarios] at hx
  | some ft =>
    rw [hft] at hx
    exact ⟨x, ⟨ft, mem_of_find?_eq_some hft, hx⟩, rfl, rfl, retDesc_refl _⟩

theorem insQ_desc (c : SCfg) (s : SState) (t : Nat) (ps pc : List QE) (h : RInv c s)
    (hf : (insFails c s t ps pc).all rq = true) :
    ∀ e ∈ (insQ c s t ps pc).serial ++ (insQ c s t ps pc).conc, ∃ e0, Origin c e0 ∧ Desc e0 e := by
  have hq : ∀ x ∈ s.q.serial ++ s.q.conc, ∃ e0, Origin c e0 ∧ Desc e0 x := fun x hx =>
    h x (mem_append_left _ (mem_append_left _ hx))
  rcases ins_cases rfl rfl hf with ⟨f, -, -, e⟩ | ⟨-, ser, p, e1, o, -, hr, ho, -, e⟩
  · rw [e]
    refine adoptQ_desc c _ ps pc fun x hx => ?_
    rcases mem_insertInitial _ _ _ x hx with h1 | h1 | h1
    · exact hq x h1
    · exact newEntries_origin c f x (mem_filter.mp h1).1
    · exact newEntries_origin c f x (mem_filter.mp h1).1
  · rw [e]
    obtain ⟨e0, horig, hd⟩ := h e1 (mem_append_right _ (mem_of_find?_eq_some hr))
    refine adoptQ_desc c _ ps pc fun x hx => ?_
    rcases mem_insertRetried _ _ _ x hx with h1 | ⟨h1, h2, h3⟩
    · exact hq x h1
    · exact desc_congr h1 h2 h3 ⟨e0, horig, hd.1, hd.2.1, retDesc_next e0.ret e1.ret o hd.2.2 ho⟩

theorem step_rinv (c : SCfg) (s : SState) (l : Label) (h : RInv c s) (hg : GoodRQ (stepL c s l) = true) :
    RInv c (stepL c s l) := by
  rw [goodRQ_step, Bool.and_eq_true] at hg
  obtain ⟨_, hf⟩ := hg
  rw [stepL_eq]
  cases l
  all_goals simp only [stepD, RInv, ents]
  case ins t ps pc =>
    intro e he
    rcases mem_append.mp he with he | he
    · rcases mem_append.mp he with he | he
      · exact insQ_desc c s t ps pc h hf e he
      · exact h e (mem_append_left _ (mem_append_right _ he))
    · exact h e (mem_append_right _ he)
  case get2 t2 slots got sleep running =>
    simp [fails, rq, -all_eq_true] at hf
    rw [get2Out_eq hf.1]
    intro e he
    refine h e ?_
    simp only [ents, mem_append] at he ⊢
    rcases he with ((he | he) | he) | he
    · exact Or.inl (Or.inl (mem_append.mp (mem_getBatch _ _ _ e (Or.inr (Or.inl he)))))
    · exact Or.inl (Or.inl (mem_append.mp (mem_getBatch _ _ _ e (Or.inr (Or.inr he)))))
    · exact Or.inl (Or.inl (mem_append.mp (mem_getBatch _ _ _ e (Or.inl he))))
    · exact Or.inr he
  case disp n slots =>
    intro e he
    refine h e ?_
    simpa [ents, or_assoc, or_comm, or_left_comm] using he
  case endA id failed retried t =>
    intro e he
    exact h e ((mem_append.mp he).elim (mem_append_left _) fun hr => mem_append_right _ (mem_of_mem_eraseP hr))
  all_goals exact h

theorem foldl_rinv (c : SCfg) (ls : List Label) (s : SState) (h : RInv c s) (hg : GoodRQ (ls.foldl (stepL c) s) = true) :
    RInv c (ls.foldl (stepL c) s) :=
  all_cls_inv rq c (RInv c) (step_rinv c) ls s h hg
end

end Cuke.SchedRetry
