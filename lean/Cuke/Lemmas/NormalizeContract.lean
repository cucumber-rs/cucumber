import Cuke.Model.Contract
import Cuke.Lemmas.NormalizeSeq
/-!
  The Runner contract (`Cuke.Contract`, a status ledger that knows nothing about the normalizer) implies,
  event by event, the side conditions the C11 theorems are stated under (`Safe`, `startsRightN`:
  `contract_safe`) — and with `Safe`, by `insert_some`, no `panic!` branch of `Normalize` is reached.

  Invariant (`Inv`): the queue mirrors the ledger at each of its three levels (features, rules, attempts).
  A level of the queue is read as the list of its keys with their status; `Mirror` says that every queued key
  is known to the ledger with the matching status (queued & unfinished ⇒ open, queued & finished ⇒ closed),
  that every OPEN key of the ledger is queued, and that the ledger has no key both open and closed. An event
  sets one key at one level to one status (`Upd`) while the ledger opens or closes the same key
  (`Mirror.opened`, `Mirror.closed`; `inv_insert`); emission only drops closed keys (`Sub`, `Mirror.sub`;
  `inv_emit`).
-/
namespace Cuke.NormL
open Cuke List

theorem featIn_mem (n : Norm) (f : Nat) (q : FeatQ) (h : featIn n f = some q) : (f, q) ∈ n.feats := by
  obtain ⟨F1, F2, hfs, _⟩ := featIn_eq_some.mp h
  simp [hfs]

theorem cstep_featStarted (c c' : CSt) (f : Nat) (hfin : c.fin = false) (h : c.step (.featStarted f) = some c') :
    f ∉ c.openF ∧ f ∉ c.doneF ∧ c' = { c with openF := f :: c.openF } := by
  simpa [CSt.step, hfin, and_assoc, eq_comm (b := c')] using h

theorem cstep_featFinished (c c' : CSt) (f : Nat) (hfin : c.fin = false) (h : c.step (.featFinished f) = some c') :
    f ∈ c.openF ∧ (∀ p ∈ c.openR, p.1 ≠ f) ∧ (∀ κ ∈ c.openA, κ.1.feat ≠ f) ∧
    c' = { c with openF := c.openF.filter (· != f), doneF := f :: c.doneF } := by
  simpa [CSt.step, hfin, and_assoc, eq_comm (b := c')] using h

theorem cstep_ruleStarted (c c' : CSt) (f r : Nat) (hfin : c.fin = false) (h : c.step (.ruleStarted f r) = some c') :
    f ∈ c.openF ∧ (f, r) ∉ c.openR ∧ (f, r) ∉ c.doneR ∧ c' = { c with openR := (f, r) :: c.openR } := by
  simpa [CSt.step, hfin, and_assoc, eq_comm (b := c')] using h

theorem cstep_ruleFinished (c c' : CSt) (f r : Nat) (hfin : c.fin = false) (h : c.step (.ruleFinished f r) = some c') :
    f ∈ c.openF ∧ (f, r) ∈ c.openR ∧ (∀ κ ∈ c.openA, κ.1.feat = f → κ.1.rule ≠ some r) ∧
    c' = { c with openR := c.openR.filter (· != (f, r)), doneR := (f, r) :: c.doneR } := by
  simpa [CSt.step, hfin, and_assoc, Decidable.imp_iff_not_or, eq_comm (b := c')] using h

theorem cstep_scen (c c' : CSt) (k : ScenKey) (ret : Option Retries) (ev : ScenEv) (hfin : c.fin = false)
    (h : c.step (.scen k ret ev) = some c') :
    k.feat ∈ c.openF ∧ (∀ r, k.rule = some r → (k.feat, r) ∈ c.openR) ∧ (k, ret) ∉ c.doneA ∧
    ((ev = .started ∧ (k, ret) ∉ c.openA ∧ c' = { c with openA := (k, ret) :: c.openA }) ∨
     (ev ≠ .started ∧ (k, ret) ∈ c.openA ∧
       ((ev = .finished ∧ c' = { c with openA := c.openA.filter (· != (k, ret)), doneA := (k, ret) :: c.doneA }) ∨
        (ev ≠ .finished ∧ c' = c)))) := by
  simp only [CSt.step, hfin, Bool.false_eq_true, if_false] at h
  split at h
  · rename_i hc
    simp only [Bool.and_eq_true, Bool.not_eq_true'] at hc
    refine ⟨by simpa using hc.1.1, fun r hr => by simpa [ruleOpenOk, hr] using hc.1.2, by simpa using hc.2, ?_⟩
    by_cases hst : ev = .started
    · simpa [hst, hfin, eq_comm (b := c')] using h
    · by_cases hf : ev = .finished
      · simpa [hf, hfin, eq_comm (b := c')] using h
      · simpa [hst, hf, hfin, eq_comm (b := c')] using h
  · cases h

theorem cstep_finished (c c' : CSt) (hfin : c.fin = false) (h : c.step .finished = some c') :
    c.openF = [] ∧ c' = { c with fin := true } := by
  simpa [CSt.step, hfin, eq_comm (b := c')] using h

variable {κ : Type}

section
variable {op dn op' dn' : List κ} {l l' m m' P : List (κ × Fin)} {x : κ} {s : Fin}

/-- a queued entity `x` in `FinishedState` `s` is known to the ledger with the matching status (`op` its open
    entities, `dn` its closed ones): unfinished ⇒ open, finished and waiting to be emitted ⇒ closed -/
def Known (op dn : List κ) (x : κ) (s : Fin) : Prop :=
  s ≠ .emitted ∧ (s = .no → x ∈ op) ∧ (s = .pending → x ∈ dn)

theorem Known.mono (h : Known op dn x s)
    (ho : x ∈ op → x ∈ op') (hd : x ∈ dn → x ∈ dn') : Known op' dn' x s :=
  ⟨h.1, fun hs => ho (h.2.1 hs), fun hs => hd (h.2.2 hs)⟩

theorem Known.opened (h : x ∈ op) : Known op dn x .no :=
  ⟨by simp, fun _ => h, nofun⟩

theorem Known.closed (h : x ∈ dn) : Known op dn x .pending :=
  ⟨by simp, nofun, fun _ => h⟩

theorem Known.of_not_done (h : Known op dn x s) (hx : x ∉ dn) :
    s = .no ∧ x ∈ op := by
  cases s
  · exact ⟨rfl, h.2.1 rfl⟩
  · exact absurd (h.2.2 rfl) hx
  · exact absurd rfl h.1

theorem Known.of_not_open (h : Known op dn x s) (hx : x ∉ op) :
    s = .pending ∧ x ∈ dn := by
  cases s
  · exact absurd (h.2.1 rfl) hx
  · exact ⟨rfl, h.2.2 rfl⟩
  · exact absurd rfl h.1

/-- a level of the queue, read as the list of its keys with their status, mirrors the ledger's lists of open
    and closed keys of that level (which have no key in common) -/
structure Mirror (op dn : List κ) (l : List (κ × Fin)) : Prop where
  apart : ∀ x ∈ op, x ∉ dn
  known : ∀ x s, (x, s) ∈ l → Known op dn x s
  queued : ∀ x ∈ op, ∃ s, (x, s) ∈ l

/-- insertion: `l'` is `l` with key `x` set to status `s`, whether or not `x` was there -/
def Upd (l l' : List (κ × Fin)) (x : κ) (s : Fin) : Prop :=
  (x, s) ∈ l' ∧ (∀ p ∈ l', p ∈ l ∨ p = (x, s)) ∧ ∀ p ∈ l, p.1 ≠ x → p ∈ l'

theorem Upd.inList (L1 L2 : List (κ × Fin)) (h : Upd m m' x s) :
    Upd (L1 ++ (m ++ L2)) (L1 ++ (m' ++ L2)) x s := by
  obtain ⟨h1, h2, h3⟩ := h
  refine ⟨by simp [h1], fun p hp => ?_, fun p hp hne => ?_⟩
  · simp only [mem_append] at hp ⊢
    rcases hp with hp | hp | hp
    · exact Or.inl (Or.inl hp)
    · exact (h2 p hp).imp (fun h => Or.inr (Or.inl h)) id
    · exact Or.inl (Or.inr (Or.inr hp))
  · simp only [mem_append] at hp ⊢
    exact hp.imp id (Or.imp (h3 p · hne) id)

theorem Upd.atEnd (l : List (κ × Fin)) (x : κ) (s : Fin) : Upd l (l ++ [(x, s)]) x s :=
  ⟨by simp, fun p hp => by simpa using hp, fun p hp _ => mem_append_left _ hp⟩

theorem Upd.single (x : κ) (s : Fin) (hm : ∀ p ∈ m, p.1 = x) : Upd m [(x, s)] x s :=
  ⟨by simp, fun p hp => Or.inr (by simpa using hp), fun p hp hne => absurd (hm p hp) hne⟩

def OneEach (l : List (κ × Fin)) : Prop := ∀ y t t', (y, t) ∈ l → (y, t') ∈ l → t = t'

/-- the key named by the event gets the status the ledger gives it; every other key is where it was on both
    sides -/
theorem Mirror.set (h : Mirror op dn l) (hfun : OneEach l') (hu : Upd l l' x s) (hap : ∀ y ∈ op', y ∉ dn') (hx : Known op' dn' x s)
    (hop : ∀ y, y ≠ x → (y ∈ op ↔ y ∈ op')) (hdn : ∀ y, y ∈ dn → y ∈ dn') : Mirror op' dn' l' := by
  refine ⟨hap, fun y t hy => ?_, fun y hy => ?_⟩
  · by_cases hyx : y = x
    · subst hyx
      exact hfun y s t hu.1 hy ▸ hx
    · rcases hu.2.1 _ hy with h1 | h1
      · exact (h.known y t h1).mono (hop y hyx).mp (hdn y)
      · cases h1; exact absurd rfl hyx
  · by_cases hyx : y = x
    · exact ⟨s, hyx ▸ hu.1⟩
    · obtain ⟨t, ht⟩ := h.queued y ((hop y hyx).mpr hy)
      exact ⟨t, hu.2.2 _ ht hyx⟩

theorem Mirror.opened (h : Mirror op dn l) (hfun : OneEach l') (hu : Upd l l' x .no) (hx : x ∉ dn) : Mirror (x :: op) dn l' :=
  h.set hfun hu (forall_mem_cons.mpr ⟨hx, h.apart⟩) (Known.opened (by simp)) (fun y hy => by simp [hy]) (fun _ => id)

theorem Mirror.closed [BEq κ] [LawfulBEq κ] (h : Mirror op dn l) (hfun : OneEach l') (hu : Upd l l' x .pending) : Mirror (op.filter (· != x)) (x :: dn) l' := by
  refine h.set hfun hu (fun y hy hc => ?_) (Known.closed (by simp)) (fun y hy => by simp [hy]) (fun _ => mem_cons_of_mem _)
  simp only [mem_filter, bne_iff_ne, ne_eq] at hy
  exact (mem_cons.mp hc).elim hy.2 (h.apart y hy.1)

/-- emission: entries leave `l`, none of them open -/
def Sub (l l' : List (κ × Fin)) : Prop := (∀ p ∈ l', p ∈ l) ∧ ∀ p ∈ l, p.2 = .no → p ∈ l'

theorem Sub.refl (l : List (κ × Fin)) : Sub l l := ⟨fun _ h => h, fun _ h _ => h⟩

theorem Sub.nil (hP : ∀ p ∈ P, p.2 ≠ .no) : Sub P [] :=
  ⟨nofun, fun p hp hno => absurd hno (hP p hp)⟩

/-- `emit` pops a closed prefix and works on the entry behind it -/
theorem Sub.pop (S : List (κ × Fin)) (hP : ∀ p ∈ P, p.2 ≠ .no) (h : Sub m m') :
    Sub (P ++ (m ++ S)) (m' ++ S) := by
  refine ⟨fun p hp => ?_, fun p hp hno => ?_⟩
  · simp only [mem_append] at hp ⊢
    exact Or.inr (hp.imp (h.1 p) id)
  · simp only [mem_append] at hp ⊢
    rcases hp with hp | hp | hp
    · exact absurd hno (hP p hp)
    · exact Or.inl (h.2 p hp hno)
    · exact Or.inr hp

theorem Mirror.sub (h : Mirror op dn l) (hs : Sub l l') : Mirror op dn l' := by
  refine ⟨h.apart, fun y t hy => h.known y t (hs.1 _ hy), fun y hy => ?_⟩
  obtain ⟨t, ht⟩ := h.queued y hy
  exact ⟨t, hs.2 _ ht ((h.known y t ht).of_not_done (h.apart y hy)).1⟩

end

/-- an attempt whose buffer ends with `Finished` is closed and waiting to be emitted -/
def attFin (a : AttQ) : Fin := if attComplete a then .pending else .no

theorem attFin_no {a : AttQ} : attFin a = .no ↔ attComplete a = false := by
  unfold attFin; split <;> simp_all

theorem attFin_pending {a : AttQ} : attFin a = .pending ↔ attComplete a = true := by
  unfold attFin; split <;> simp_all

section
variable {c : CSt} {fs : List (Nat × FeatQ)}

def attIn (items : List Item) (ro : Option Nat) (a : AttQ) : Prop :=
  match ro with
  | none => Item.att a ∈ items
  | some r => ∃ rq, Item.rule r rq ∈ items ∧ a ∈ rq.atts

def attSt (f : Nat) (ro : Option Nat) (a : AttQ) : AttKey × Fin := (attKey f ro a, attFin a)

def ruleSts (f : Nat) : Item → List ((Nat × Nat) × Fin)
  | .rule r rq => [((f, r), rq.fin)]
  | .att _ => []

def attSts (f : Nat) : Item → List (AttKey × Fin)
  | .rule r rq => rq.atts.map (attSt f (some r))
  | .att a => [attSt f none a]

def viewF (fs : List (Nat × FeatQ)) : List (Nat × Fin) := fs.map fun fq => (fq.1, fq.2.fin)

/-- the rules (`g = ruleSts`) or attempts (`g = attSts`) of all queued features -/
def viewI (g : Nat → Item → List (κ × Fin)) (fs : List (Nat × FeatQ)) : List (κ × Fin) :=
  fs.flatMap fun fq => fq.2.items.flatMap (g fq.1)

theorem mem_viewF {f : Nat} {s : Fin} : (f, s) ∈ viewF fs ↔ ∃ q, (f, q) ∈ fs ∧ q.fin = s := by
  simp only [viewF, mem_map, Prod.exists, Prod.mk.injEq]
  constructor
  · rintro ⟨f', q, hq, rfl, rfl⟩; exact ⟨q, hq, rfl⟩
  · rintro ⟨q, hq, rfl⟩; exact ⟨f, q, hq, rfl, rfl⟩

theorem mem_viewR {f r : Nat} {s : Fin} :
    ((f, r), s) ∈ viewI ruleSts fs ↔ ∃ q rq, (f, q) ∈ fs ∧ Item.rule r rq ∈ q.items ∧ rq.fin = s := by
  simp only [viewI, mem_flatMap, Prod.exists]
  constructor
  · rintro ⟨f', q, hq, it, hit, hp⟩
    cases it with
    | att a => simp [ruleSts] at hp
    | rule r' rq =>
      simp only [ruleSts, mem_singleton, Prod.mk.injEq] at hp
      obtain ⟨⟨rfl, rfl⟩, rfl⟩ := hp
      exact ⟨q, rq, hq, hit, rfl⟩
  · rintro ⟨q, rq, hq, hit, rfl⟩
    exact ⟨f, q, hq, _, hit, by simp [ruleSts]⟩

theorem mem_viewA {k : ScenKey} {ret : Option Retries} {s : Fin} :
    ((k, ret), s) ∈ viewI attSts fs ↔
      ∃ q a, (k.feat, q) ∈ fs ∧ attIn q.items k.rule a ∧ a.scen = k.scen ∧ a.ret = ret ∧ attFin a = s := by
  simp only [viewI, mem_flatMap, Prod.exists]
  constructor
  · rintro ⟨f', q, hq, it, hit, hp⟩
    cases it with
    | att a =>
      simp only [attSts, attSt, attKey, mem_singleton, Prod.mk.injEq] at hp
      obtain ⟨⟨rfl, rfl⟩, rfl⟩ := hp
      exact ⟨q, a, hq, hit, rfl, rfl, rfl⟩
    | rule r' rq =>
      simp only [attSts, attSt, attKey, mem_map, Prod.mk.injEq] at hp
      obtain ⟨a, ha, ⟨rfl, rfl⟩, rfl⟩ := hp
      exact ⟨q, a, hq, ⟨rq, hit, ha⟩, rfl, rfl, rfl⟩
  · rintro ⟨q, a, hq, hat, h1, h2, rfl⟩
    obtain ⟨kf, kr, ks⟩ := k
    simp only at hq hat h1
    subst h1 h2
    cases kr with
    | none => exact ⟨kf, q, hq, _, hat, by simp [attSts, attSt, attKey]⟩
    | some r =>
      obtain ⟨rq, hit, ha⟩ := hat
      exact ⟨kf, q, hq, _, hit, mem_map.mpr ⟨a, ha, rfl⟩⟩

theorem viewF_split (F1 : List (Nat × FeatQ)) (f : Nat) (q : FeatQ) (F2 : List (Nat × FeatQ)) :
    viewF (F1 ++ (f, q) :: F2) = viewF F1 ++ ([(f, q.fin)] ++ viewF F2) := by
  simp [viewF]

theorem viewI_split (g : Nat → Item → List (κ × Fin)) (F1 : List (Nat × FeatQ)) (f : Nat) (q : FeatQ)
    (F2 : List (Nat × FeatQ)) : viewI g (F1 ++ (f, q) :: F2) = viewI g F1 ++ (q.items.flatMap (g f) ++ viewI g F2) := by
  simp [viewI]

theorem attIn_unique {items : List Item} (hd : itemsD items = true) {ro : Option Nat} {a a' : AttQ}
    (h : attIn items ro a) (h' : attIn items ro a') (hs : a.scen = a'.scen) (hr : a.ret = a'.ret) : a = a' := by
  cases ro with
  | none =>
    exact Item.att.inj (pairwise_eq (itemsD_iff.mp hd).1 h h' (by simp [sameItem, Item.isAtt, hs, hr])
      (by simp [sameItem, Item.isAtt, hs, hr]))
  | some r =>
    obtain ⟨rq, hm, ha⟩ := h
    obtain ⟨rq', hm', ha'⟩ := h'
    cases rule_unique items hd r rq rq' hm hm'
    exact pairwise_eq (attsD_iff.mp ((itemsD_iff.mp hd).2 r rq hm)) ha ha' (by simp [AttQ.is, hs, hr])
      (by simp [AttQ.is, hs, hr])

theorem viewF_one (hd : featsD fs = true) : OneEach (viewF fs) := by
  intro y t t' h h'
  obtain ⟨q, hq, rfl⟩ := mem_viewF.mp h
  obtain ⟨q', hq', rfl⟩ := mem_viewF.mp h'
  rw [feat_unique hd hq hq']

theorem viewR_one (hd : featsD fs = true) : OneEach (viewI ruleSts fs) := by
  rintro ⟨f, r⟩ t t' h h'
  obtain ⟨q, rq, hq, hm, rfl⟩ := mem_viewR.mp h
  obtain ⟨q', rq', hq', hm', rfl⟩ := mem_viewR.mp h'
  cases feat_unique hd hq hq'
  rw [rule_unique q.items ((featsD_iff.mp hd).2 _ hq) r rq rq' hm hm']

theorem viewA_one (hd : featsD fs = true) : OneEach (viewI attSts fs) := by
  rintro ⟨k, ret⟩ t t' h h'
  obtain ⟨q, a, hq, hat, h1, h2, rfl⟩ := mem_viewA.mp h
  obtain ⟨q', a', hq', hat', h1', h2', rfl⟩ := mem_viewA.mp h'
  cases feat_unique hd hq hq'
  rw [attIn_unique ((featsD_iff.mp hd).2 _ hq) hat hat' (h1.trans h1'.symm) (h2.trans h2'.symm)]

structure Inv (c : CSt) (fs : List (Nat × FeatQ)) : Prop where
  F : Mirror c.openF c.doneF (viewF fs)
  R : Mirror c.openR c.doneR (viewI ruleSts fs)
  A : Mirror c.openA c.doneA (viewI attSts fs)

theorem Inv.feat (h : Inv c fs) {fq : Nat × FeatQ} (hfq : fq ∈ fs) :
    Known c.openF c.doneF fq.1 fq.2.fin :=
  h.F.known _ _ (mem_map.mpr ⟨fq, hfq, rfl⟩)

theorem Inv.rule (h : Inv c fs) {f r : Nat} {q : FeatQ} {rq : RuleQ}
    (hq : (f, q) ∈ fs) (hm : Item.rule r rq ∈ q.items) : Known c.openR c.doneR (f, r) rq.fin :=
  h.R.known _ _ (mem_viewR.mpr ⟨q, rq, hq, hm, rfl⟩)

theorem Inv.att (h : Inv c fs) {k : ScenKey} {ret : Option Retries} {q : FeatQ}
    {a : AttQ} (hq : (k.feat, q) ∈ fs) (hat : attIn q.items k.rule a) (hs : a.scen = k.scen) (hr : a.ret = ret) :
    Known c.openA c.doneA (k, ret) (attFin a) :=
  h.A.known _ _ (mem_viewA.mpr ⟨q, a, hq, hat, hs, hr, rfl⟩)

end

theorem open_feat {c : CSt} {n : Norm} (hinv : Inv c n.feats) (hd : NormD n) {f : Nat} (hf : f ∈ c.openF) :
    ∃ q, featIn n f = some q ∧ (f, q) ∈ n.feats ∧ q.fin = .no := by
  obtain ⟨s, hs⟩ := hinv.F.queued f hf
  obtain ⟨q, hq, rfl⟩ := mem_viewF.mp hs
  exact ⟨q, featIn_of_mem n f q hd hq, hq, ((hinv.feat hq).of_not_done (hinv.F.apart f hf)).1⟩

theorem open_rule {c : CSt} {n : Norm} (hinv : Inv c n.feats) (hd : NormD n) {f r : Nat} {q : FeatQ}
    (hq : (f, q) ∈ n.feats) (hr : (f, r) ∈ c.openR) :
    ∃ rq, q.items.find? (Item.isRule r) = some (.rule r rq) ∧ Item.rule r rq ∈ q.items ∧ rq.fin = .no := by
  obtain ⟨s, hs⟩ := hinv.R.queued _ hr
  obtain ⟨q', rq0, hq', hrq0, _⟩ := mem_viewR.mp hs
  cases feat_unique hd hq hq'
  obtain ⟨I1, rq, I2, hi, hm⟩ := rule_split (r := r) (any_eq_true.mpr ⟨_, hrq0, by simp [Item.isRule]⟩)
  have hmem : Item.rule r rq ∈ q.items := by simp [hi]
  exact ⟨rq, hi ▸ find?_split I2 hm (by simp [Item.isRule]), hmem, ((hinv.rule hq hmem).of_not_done (hinv.R.apart _ hr)).1⟩

theorem bne_started {b : Bool} {ev : ScenEv} (h : b = true ↔ ev ≠ .started) : (b != (ev == .started)) = true := by
  cases b <;> simp_all

/-- **The contract implies the side conditions** of the C11 theorems, one event at a time. -/
theorem contract_safe (c c' : CSt) (n : Norm) (e : Ev) (hinv : Inv c n.feats) (hd : NormD n)
    (hfin : c.fin = false) (h : c.step e = some c') :
    Safe n e = true ∧ startsRightN n e = true ∧
    (e = .finished → n.feats.all (fun fq => fq.2.fin == .pending) = true) := by
  cases e with
  | started | parsingFinished | parseErr => simp [Safe, startsRightN]
  | finished =>
    refine ⟨by simp [Safe], by simp [startsRightN], fun _ => ?_⟩
    obtain ⟨hopen, _⟩ := cstep_finished c c' hfin h
    rw [all_eq_true]
    intro fq hfq
    simp [((hinv.feat hfq).of_not_open (by simp [hopen])).1]
  | featStarted f =>
    obtain ⟨ho, hdn, _⟩ := cstep_featStarted c c' f hfin h
    refine ⟨?_, by simp [startsRightN], nofun⟩
    simp only [Safe, Bool.not_eq_true', any_eq_false, beq_iff_eq]
    intro fq hfq hc
    subst hc
    exact hdn ((hinv.feat hfq).of_not_open ho).2
  | featFinished f =>
    obtain ⟨ho, hnoR, hnoA, _⟩ := cstep_featFinished c c' f hfin h
    obtain ⟨q, hq, hm, hqfin⟩ := open_feat hinv hd ho
    refine ⟨?_, by simp [startsRightN], nofun⟩
    simp only [Safe, hq, hqfin, beq_self_eq_true, Bool.true_and]
    rw [all_eq_true]
    intro it hit
    cases it with
    | att a =>
      exact attFin_pending.mp ((hinv.att (k := ⟨f, none, a.scen⟩) hm hit rfl rfl).of_not_open (fun h => hnoA _ h rfl)).1
    | rule r rq => simp [itemComplete, ((hinv.rule hm hit).of_not_open (fun h => hnoR _ h rfl)).1]
  | ruleStarted f r =>
    obtain ⟨ho, hnoO, hnoD, _⟩ := cstep_ruleStarted c c' f r hfin h
    obtain ⟨q, hq, hm, hqfin⟩ := open_feat hinv hd ho
    refine ⟨?_, by simp [startsRightN], nofun⟩
    simp only [Safe, hq, hqfin, beq_self_eq_true, Bool.true_and, Bool.not_eq_true']
    rw [any_eq_false]
    intro it hit hp
    obtain ⟨rq, rfl⟩ := isRule_iff.mp hp
    exact hnoD ((hinv.rule hm hit).of_not_open hnoO).2
  | ruleFinished f r =>
    obtain ⟨ho, hr, hnoA, _⟩ := cstep_ruleFinished c c' f r hfin h
    obtain ⟨q, hq, hm, hqfin⟩ := open_feat hinv hd ho
    obtain ⟨rq, hfind, hrm, hrfin⟩ := open_rule hinv hd hm hr
    refine ⟨?_, by simp [startsRightN], nofun⟩
    simp only [Safe, hq, hfind, hrfin, beq_self_eq_true, Bool.true_and]
    rw [all_eq_true]
    intro a ha
    exact attFin_pending.mp ((hinv.att (k := ⟨f, some r, a.scen⟩) hm ⟨rq, hrm, ha⟩ rfl rfl).of_not_open
      (fun h => hnoA _ h rfl rfl)).1
  | scen k ret ev =>
    obtain ⟨ho, hrule, hnd, hev⟩ := cstep_scen c c' k ret ev hfin h
    obtain ⟨q, hq, hm, hqfin⟩ := open_feat hinv hd ho
    -- a queued attempt with this key is known to the ledger under it: open while incomplete, never closed
    have hkey : ∀ (a : AttQ), attIn q.items k.rule a → a.scen = k.scen → a.ret = ret →
        attComplete a = false ∧ (k, ret) ∈ c.openA := fun a hat h2 h3 =>
      ((hinv.att hm hat h2 h3).of_not_done hnd).imp attFin_no.mp id
    -- the attempt is queued exactly if the ledger has it open
    have hqueued : (∃ a, attIn q.items k.rule a ∧ a.scen = k.scen ∧ a.ret = ret) ↔ ev ≠ .started := by
      rcases hev with ⟨hst, hno, _⟩ | ⟨hst, hopen, _⟩
      · exact ⟨fun ⟨a, hat, h2, h3⟩ => absurd (hkey a hat h2 h3).2 hno, fun hc => absurd hst hc⟩
      · refine ⟨fun _ => hst, fun _ => ?_⟩
        obtain ⟨s, hs⟩ := hinv.A.queued _ hopen
        obtain ⟨q', a, hq', hat, h1, h2, _⟩ := mem_viewA.mp hs
        exact ⟨a, feat_unique hd hm hq' ▸ hat, h1, h2⟩
    simp only [Safe, startsRightN, hq, safeScen, startsRightF, hqfin, beq_self_eq_true, Bool.true_and]
    cases hr : k.rule with
    | some r =>
      obtain ⟨rq, hfind, hrm, hrfin⟩ := open_rule hinv hd hm (hrule r hr)
      simp only [hfind, hrfin, beq_self_eq_true, Bool.true_and, safeAtt, startsRight]
      refine ⟨?_, ?_, nofun⟩
      · split
        · rename_i a hfa
          obtain ⟨hs1, hs2⟩ := is_iff.mp (find?_some hfa)
          simp [(hkey a (hr ▸ ⟨rq, hrm, mem_of_find?_eq_some hfa⟩) hs1 hs2).1]
        · rfl
      · refine bne_started (Iff.trans ?_ hqueued)
        rw [hr, any_eq_true]
        constructor
        · rintro ⟨a, ha, hp⟩
          exact ⟨a, ⟨rq, hrm, ha⟩, is_iff.mp hp⟩
        · rintro ⟨a, ⟨rq2, hrq2, ha⟩, hs⟩
          rw [rule_unique q.items ((featsD_iff.mp hd).2 _ hm) r rq rq2 hrm hrq2]
          exact ⟨a, ha, is_iff.mpr hs⟩
    | none =>
      simp only []
      refine ⟨?_, ?_, nofun⟩
      · split
        · rename_i a hfa
          obtain ⟨a', ha', hs1, hs2⟩ := isAtt_iff.mp (find?_some hfa)
          cases ha'
          simp [(hkey a (hr ▸ mem_of_find?_eq_some hfa) hs1 hs2).1]
        · rfl
      · refine bne_started (Iff.trans ?_ hqueued)
        rw [hr, any_eq_true]
        constructor
        · rintro ⟨it, hit, hp⟩
          obtain ⟨a, rfl, hs⟩ := isAtt_iff.mp hp
          exact ⟨a, hit, hs⟩
        · rintro ⟨a, ha, hs⟩
          exact ⟨_, ha, isAtt_iff.mpr ⟨a, rfl, hs⟩⟩

theorem cstep_fin (c c' : CSt) (e : Ev) (hfin : c.fin = false) (h : c.step e = some c') :
    (c'.fin = true ↔ e = .finished) := by
  cases e with
  | started | parsingFinished | parseErr =>
    simp only [CSt.step, hfin, Bool.false_eq_true, if_false, Option.some.injEq] at h; subst h; simp [hfin]
  | finished => obtain ⟨_, rfl⟩ := cstep_finished c c' hfin h; simp
  | featStarted f => obtain ⟨_, _, rfl⟩ := cstep_featStarted c c' f hfin h; simp [hfin]
  | featFinished f => obtain ⟨_, _, _, rfl⟩ := cstep_featFinished c c' f hfin h; simp [hfin]
  | ruleStarted f r => obtain ⟨_, _, _, rfl⟩ := cstep_ruleStarted c c' f r hfin h; simp [hfin]
  | ruleFinished f r => obtain ⟨_, _, _, rfl⟩ := cstep_ruleFinished c c' f r hfin h; simp [hfin]
  | scen k ret ev =>
    obtain ⟨_, _, _, hev⟩ := cstep_scen c c' k ret ev hfin h
    rcases hev with ⟨_, _, rfl⟩ | ⟨_, _, ⟨_, rfl⟩ | ⟨_, rfl⟩⟩ <;> simp [hfin]

theorem complete_new (scen : Nat) (ret : Option Retries) (ev : ScenEv) :
    attComplete ⟨scen, ret, [ev]⟩ = true ↔ ev = .finished := by
  simp [attComplete]

theorem attSt_push (f : Nat) (ro : Option Nat) (a : AttQ) (ev : ScenEv) :
    attSt f ro (a.push ev) = ((⟨f, ro, a.scen⟩, a.ret), attFin ⟨a.scen, a.ret, [ev]⟩) := by
  simp [attSt, attKey, attFin, attComplete, AttQ.push]

theorem pushAtt_upd (f : Nat) (ro : Option Nat) (atts : List AttQ) (scen : Nat) (ret : Option Retries) (ev : ScenEv) :
    Upd (atts.map (attSt f ro)) ((pushAtt atts scen ret ev).map (attSt f ro)) (⟨f, ro, scen⟩, ret)
      (attFin ⟨scen, ret, [ev]⟩) := by
  rcases pushAtt_cases atts scen ret ev with ⟨A1, a, A2, rfl, rfl, rfl, _, he⟩ | ⟨_, he⟩
  · rw [he, map_append, map_append, map_cons, map_cons, attSt_push]
    exact Upd.inList _ _ (Upd.single _ _ (m := [attSt f ro a]) (by simp [attSt, attKey]))
  · rw [he, map_append]
    exact Upd.atEnd _ _ _

theorem insertScen_views (f : Nat) {q q' : FeatQ} {rule : Option Nat} {scen : Nat} {ret : Option Retries} {ev : ScenEv}
    (h : q.insertScen rule scen ret ev = some q') :
    q'.fin = q.fin ∧ q'.items.flatMap (ruleSts f) = q.items.flatMap (ruleSts f) ∧
    Upd (q.items.flatMap (attSts f)) (q'.items.flatMap (attSts f)) (⟨f, rule, scen⟩, ret) (attFin ⟨scen, ret, [ev]⟩) := by
  cases rule with
  | some r =>
    obtain ⟨I1, rq, I2, hi, _, rfl⟩ := insertScen_some h
    refine ⟨rfl, by simp [hi, ruleSts], ?_⟩
    simp only [hi, flatMap_append, flatMap_cons, attSts]
    exact Upd.inList _ _ (pushAtt_upd f (some r) rq.atts scen ret ev)
  | none =>
    rcases insertScen_none h with ⟨I1, a, I2, hi, rfl, rfl, _, rfl⟩ | ⟨_, rfl⟩
    · refine ⟨rfl, by simp [hi, ruleSts], ?_⟩
      simp only [hi, flatMap_append, flatMap_cons, attSts, attSt_push]
      exact Upd.inList _ _ (Upd.single _ _ (m := [attSt f none a]) (by simp [attSt, attKey]))
    · refine ⟨rfl, by simp [ruleSts], ?_⟩
      simp only [flatMap_append, flatMap_cons, flatMap_nil, attSts, append_nil]
      exact Upd.atEnd _ _ _

theorem inv_insert (c c' : CSt) (n n1 : Norm) (e : Ev) (hinv : Inv c n.feats) (hd : NormD n)
    (hfin : c.fin = false) (hstep : c.step e = some c') (hi : n.insert e = some n1) : Inv c' n1.feats := by
  have hsafe := (contract_safe c c' n e hinv hd hfin hstep).1
  have hd1 : featsD n1.feats = true := insert_D n n1 e hd hsafe hi
  cases e with
  | started | parsingFinished | parseErr =>
    simp only [CSt.step, hfin, Bool.false_eq_true, if_false, Option.some.injEq] at hstep
    simp only [Norm.insert, Option.some.injEq] at hi
    subst hstep hi; exact hinv
  | finished =>
    obtain ⟨_, rfl⟩ := cstep_finished c c' hfin hstep
    simp only [Norm.insert, Option.some.injEq] at hi
    subst hi
    exact ⟨hinv.F, hinv.R, hinv.A⟩
  | featStarted f =>
    obtain ⟨_, hdn, rfl⟩ := cstep_featStarted c c' f hfin hstep
    obtain ⟨_, rfl⟩ := insert_featStarted hsafe hi
    have same : ∀ {κ : Type} (g : Nat → Item → List (κ × Fin)), viewI g (n.feats ++ [(f, FeatQ.new)]) = viewI g n.feats :=
      fun g => by simp [viewI, FeatQ.new]
    refine ⟨hinv.F.opened (viewF_one hd1) ?_ hdn, same ruleSts ▸ hinv.R, same attSts ▸ hinv.A⟩
    simpa [viewF, FeatQ.new] using Upd.atEnd (viewF n.feats) f .no
  | featFinished f =>
    obtain ⟨_, _, _, rfl⟩ := cstep_featFinished c c' f hfin hstep
    obtain ⟨F1, q, F2, hfs, _, _, rfl⟩ := insert_featFinished hsafe hi
    rw [hfs] at hinv
    refine ⟨hinv.F.closed (viewF_one hd1) ?_, by simpa only [viewI_split] using hinv.R,
      by simpa only [viewI_split] using hinv.A⟩
    simp only [viewF_split]
    exact Upd.inList _ _ (Upd.single f .pending (by simp))
  | ruleStarted f r =>
    obtain ⟨_, _, hdn, rfl⟩ := cstep_ruleStarted c c' f r hfin hstep
    obtain ⟨F1, q, F2, hfs, _, _, rfl⟩ := insert_ruleStarted hsafe hi
    rw [hfs] at hinv
    refine ⟨by simpa only [viewF_split] using hinv.F, hinv.R.opened (viewR_one hd1) ?_ hdn, by simpa [viewI_split, attSts, RuleQ.new] using hinv.A⟩
    simp only [viewI_split, flatMap_append, flatMap_cons, flatMap_nil, ruleSts, RuleQ.new, append_nil]
    exact Upd.inList _ _ (Upd.atEnd _ _ _)
  | ruleFinished f r =>
    obtain ⟨_, _, _, rfl⟩ := cstep_ruleFinished c c' f r hfin hstep
    obtain ⟨F1, q, F2, I1, rq, I2, hfs, hitems, _, _, rfl⟩ := insert_ruleFinished hsafe hi
    rw [hfs] at hinv
    refine ⟨by simpa only [viewF_split] using hinv.F, hinv.R.closed (viewR_one hd1) ?_, by simpa [viewI_split, hitems, attSts] using hinv.A⟩
    simp only [viewI_split, hitems, flatMap_append, flatMap_cons, ruleSts]
    exact Upd.inList _ _ (Upd.inList _ _ (Upd.single _ _ (by simp)))
  | scen k ret ev =>
    obtain ⟨_, _, hdn, hev⟩ := cstep_scen c c' k ret ev hfin hstep
    obtain ⟨F1, q, q', F2, hfs, _, hg, rfl⟩ := insert_split hi
    obtain ⟨hqf, hqr, hqa⟩ := insertScen_views k.feat hg
    rw [hfs] at hinv
    have hF : Mirror c.openF c.doneF (viewF (F1 ++ (k.feat, q') :: F2)) := by
      simpa only [viewF_split, hqf] using hinv.F
    have hR : Mirror c.openR c.doneR (viewI ruleSts (F1 ++ (k.feat, q') :: F2)) := by
      simpa only [viewI_split, hqr] using hinv.R
    have hU : Upd (viewI attSts (F1 ++ (k.feat, q) :: F2)) (viewI attSts (F1 ++ (k.feat, q') :: F2)) (k, ret)
        (attFin ⟨k.scen, ret, [ev]⟩) := by
      simp only [viewI_split]
      exact Upd.inList _ _ hqa
    have hno : ev ≠ .finished → attFin ⟨k.scen, ret, [ev]⟩ = .no := fun hf =>
      attFin_no.mpr (Bool.eq_false_iff.mpr (mt (complete_new k.scen ret ev).mp hf))
    rcases hev with ⟨hst, _, rfl⟩ | ⟨_, hopen, ⟨hf, rfl⟩ | ⟨hf, rfl⟩⟩
    · exact ⟨hF, hR, hinv.A.opened (viewA_one hd1) (hno (by simp [hst]) ▸ hU) hdn⟩
    · exact ⟨hF, hR, hinv.A.closed (viewA_one hd1) (attFin_pending.mpr ((complete_new k.scen ret ev).mpr hf) ▸ hU)⟩
    · exact ⟨hF, hR, hinv.A.set (viewA_one hd1) (hno hf ▸ hU) hinv.A.apart (Known.opened hopen) (fun _ _ => Iff.rfl) (fun _ => id)⟩

/-- under `emit`, the part `g` of the view loses only closed entries: a complete item has no others, and the item
    `emit` stops at keeps its open ones -/
structure Drops (f : Nat) (g : Item → List (κ × Fin)) : Prop where
  popped : ∀ it, itemOk it = true → itemComplete it = true → ∀ p ∈ g it, p.2 ≠ .no
  head : ∀ it, itemOk it = true → itemComplete it = false → Sub (g it) (g (stuck f it))

theorem Drops.allPopped {f : Nat} {g : Item → List (κ × Fin)} (hg : Drops f g) {I : List Item}
    (hok : I.all itemOk = true) (hc : I.all itemComplete = true) : ∀ p ∈ I.flatMap g, p.2 ≠ .no := by
  intro p hp
  obtain ⟨it, hit, hp⟩ := mem_flatMap.mp hp
  exact hg.popped it (all_eq_true.mp hok it hit) (all_eq_true.mp hc it hit) p hp

theorem emitItems_sub {f : Nat} {g : Item → List (κ × Fin)} (hg : Drops f g) (items : List Item)
    (hok : items.all itemOk = true) : Sub (items.flatMap g) ((emitItems f items).2.flatMap g) := by
  rcases emitItems_shape f items hok with ⟨h2, h1⟩ | ⟨I1, it, I2, rfl, h1, h2, h3⟩
  · rw [h1]
    exact Sub.nil (hg.allPopped hok h2)
  · simp only [all_append, all_cons, Bool.and_eq_true] at hok
    rw [h3, flatMap_append, flatMap_cons, flatMap_cons]
    exact Sub.pop _ (hg.allPopped hok.1 h1) (hg.head it hok.2.1 h2)

theorem emitFeats_sub {g : Nat → Item → List (κ × Fin)} (hg : ∀ f, Drops f (g f)) (fs : List (Nat × FeatQ))
    (hok : fs.all featOk = true) : Sub (viewI g fs) (viewI g (emitFeats fs).2) := by
  have closed : ∀ F : List (Nat × FeatQ), F.all featOk = true → (∀ x ∈ F, x.2.fin = .pending) →
      ∀ p ∈ viewI g F, p.2 ≠ .no := by
    intro F hF hp p hpm
    obtain ⟨fq, hfq, hpm⟩ := mem_flatMap.mp hpm
    have := all_eq_true.mp hF fq hfq
    simp only [featOk, hp fq hfq, Bool.and_eq_true, Bool.or_eq_true] at this
    exact (hg fq.1).allPopped this.1 (this.2.resolve_left (by simp)) p hpm
  rcases emitFeats_shape fs hok with ⟨h2, h1⟩ | ⟨F1, f, q, F2, rfl, h1, h2, h3⟩
  · rw [h1]
    exact Sub.nil (closed fs hok h2)
  · simp only [all_append, all_cons, Bool.and_eq_true, featOk] at hok
    rw [h3, viewI_split]
    exact Sub.pop _ (closed F1 hok.1 h1) (emitItems_sub (hg f) q.items hok.2.1.1)

theorem viewF_emit (fs : List (Nat × FeatQ)) (hok : fs.all featOk = true) : Sub (viewF fs) (viewF (emitFeats fs).2) := by
  have closed : ∀ F : List (Nat × FeatQ), (∀ x ∈ F, x.2.fin = .pending) → ∀ p ∈ viewF F, p.2 ≠ .no := by
    intro F hF p hp
    obtain ⟨fq, hfq, rfl⟩ := mem_map.mp hp
    simp [hF fq hfq]
  rcases emitFeats_shape fs hok with ⟨h2, h1⟩ | ⟨F1, f, q, F2, rfl, h1, _, h3⟩
  · rw [h1]
    exact Sub.nil (closed fs h2)
  · rw [h3, viewF_split]
    exact Sub.pop _ (closed F1 h1) (Sub.refl _)

theorem ruleSts_drops (f : Nat) : Drops f (ruleSts f) := by
  refine ⟨fun it _ hc => ?_, fun it _ hc => ?_⟩
  · cases it with
    | att a => simp [ruleSts]
    | rule r rq =>
      simp only [itemComplete, beq_iff_eq] at hc
      simp [ruleSts, hc]
  · cases it with
    | att a => exact Sub.refl _
    | rule r q =>
      have hp : q.fin ≠ .pending := by simpa [itemComplete] using hc
      have : (emitRule f r q).2.2.fin = q.fin := by simp [emitRule, hp]
      simp only [ruleSts, stuck, this]
      exact Sub.refl _

theorem closed_atts (f : Nat) (ro : Option Nat) {atts : List AttQ} (h : atts.all attComplete = true) :
    ∀ p ∈ atts.map (attSt f ro), p.2 ≠ .no := by
  intro p hp
  obtain ⟨a, ha, rfl⟩ := mem_map.mp hp
  simp [attSt, attFin_pending.mpr (all_eq_true.mp h a ha)]

/-- an attempt whose buffer `emit` emptied before its `Finished` came is the same open attempt -/
theorem attFin_emptied {a : AttQ} (h : attComplete a = false) : attFin { a with evs := [] } = attFin a := by
  rw [attFin_no.mpr h, attFin_no]
  simp [attComplete]

theorem emitAtts_sub (f : Nat) (ro : Option Nat) (atts : List AttQ) (hc : atts.all attClean = true) :
    Sub (atts.map (attSt f ro)) ((emitAtts f ro atts).2.map (attSt f ro)) := by
  rcases emitAtts_shape f ro atts hc with ⟨h2, h1⟩ | ⟨A1, a, A2, rfl, h1, h2, h3⟩
  · rw [h1]
    exact Sub.nil (closed_atts f ro h2)
  · rw [h3, map_append, map_cons, map_cons]
    have : attSt f ro { a with evs := [] } = attSt f ro a := by simp [attSt, attKey, attFin_emptied h2]
    rw [this]
    exact Sub.pop _ (closed_atts f ro h1) (Sub.refl [attSt f ro a])

theorem attSts_drops (f : Nat) : Drops f (attSts f) := by
  refine ⟨fun it hok hc => ?_, fun it hok hc => ?_⟩
  · cases it with
    | att a => exact closed_atts f none (atts := [a]) (by simpa [itemComplete] using hc)
    | rule r rq =>
      simp only [itemComplete, beq_iff_eq] at hc
      simp only [itemOk, ruleOk, hc, Bool.and_eq_true, Bool.or_eq_true] at hok
      exact closed_atts f (some r) (hok.2.resolve_left (by simp))
  · cases it with
    | att a =>
      simp only [attSts, stuck, attSt, attKey, attFin_emptied (hc : attComplete a = false)]
      exact Sub.refl _
    | rule r q =>
      have hp : q.fin ≠ .pending := by simpa [itemComplete] using hc
      have : (emitRule f r q).2.2.atts = (emitAtts f (some r) q.atts).2 := by simp [emitRule, hp]
      simp only [itemOk, ruleOk, Bool.and_eq_true] at hok
      simp only [attSts, stuck, this]
      exact emitAtts_sub f (some r) q.atts hok.1

theorem inv_emit (c : CSt) (fs : List (Nat × FeatQ)) (hok : fs.all featOk = true) (hinv : Inv c fs) :
    Inv c (emitFeats fs).2 :=
  ⟨hinv.F.sub (viewF_emit fs hok), hinv.R.sub (emitFeats_sub ruleSts_drops fs hok),
    hinv.A.sub (emitFeats_sub attSts_drops fs hok)⟩

theorem inv_init : Inv {} [] := by
  refine ⟨⟨?_, ?_, ?_⟩, ⟨?_, ?_, ?_⟩, ⟨?_, ?_, ?_⟩⟩ <;> intro x <;> simp [viewF, viewI]

end Cuke.NormL
