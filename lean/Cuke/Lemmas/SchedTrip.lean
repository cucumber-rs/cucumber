import Cuke.Lemmas.SchedSpin
/-!
  C08, clause (i) over WHOLE runs: under fail-fast, once an attempt has failed finally (`END … failed, not retried`
  while `execute` awaits its scenarios), every later dispatch dispatches nothing — for every log replayed without a
  disagreement, of any length.

  The invariant `AInv` ("armed"): the slot counter is `Break`, or the notification of a final failure is still pending /
  its trip is due — and then `execute` is not between `GET1` and `GET2` (a `features.get` that touches the queues only
  starts with every notification drained and no trip due, so it starts with `Break`). Under `AInv` a `features.get`
  asks for `Some(0)` and hands out nothing.
-/
namespace Cuke.SchedTrip
open Cuke List Cuke.SchedL Cuke.SchedInv Cuke.SchedOrd Cuke.SchedCons Cuke.SchedSpin Cuke.SchedStep

def isFinal (x : Nat × ScenKey × Bool × Bool) : Bool := x.2.2.1 && !x.2.2.2
def pendingFinal (l : List (Nat × ScenKey × Bool × Bool)) : Bool := l.any isFinal

def AInv (s : SState) : Prop :=
  s.phase ≠ .init ∧ s.batch = [] ∧
    (s.slots = .brk ∨ ((pendingFinal s.notifs = true ∨ s.tripDue = true) ∧ s.phase ≠ .afterGet1))

theorem getBatch_zero (ready : Entry → Bool) (q : Queues) : (getBatch ready (some 0) q).1 = [] := by
  simp [getBatch]

theorem get2_clean {c : SCfg} {s : SState} {t2 : Nat} {slots : Slots} {got : List Nat} {sleep : Bool} {running : Nat}
    (hd : (stepL c s (.get2 t2 slots got sleep running)).dis = []) :
    (s.phase = .afterGet1 ∨ (s.slots.ask = some 0 ∧ s.tripDue = false)) ∧ slots = s.slots ∧
      (stepL c s (.get2 t2 slots got sleep running)).batch = (get2Batch s t2 s.slots got).1 := by
  obtain ⟨-, hf, e⟩ := clean_step hd
  rw [e]
  simp [fails] at hf
  obtain ⟨hph, -, rfl, -, hq⟩ := hf
  refine ⟨?_, rfl, ?_⟩
  · split at hph
    · rename_i he
      simp only [get2Early, Bool.and_eq_true, beq_iff_eq] at he
      exact Or.inr ⟨he.1, by simpa using hph⟩
    · exact Or.inl (by simpa using hph)
  · have hm : (get2Batch s t2 s.slots got).1.map (·.id) = got := Decidable.by_contra fun h => by simp [h] at hq
    simp only [stepD, get2Out_eq hm]

theorem pendingFinal_append (l m : List (Nat × ScenKey × Bool × Bool)) (h : pendingFinal l = true) :
    pendingFinal (l ++ m) = true := by
  simp only [pendingFinal, any_append, Bool.or_eq_true]; exact Or.inl h

theorem ainv_step (c : SCfg) (hff : c.failFast = true) (s : SState) (l : Label) (h : AInv s)
    (hd : (stepL c s l).dis = []) : AInv (stepL c s l) ∧ ∀ n sl, l = .disp n sl → n = 0 := by
  obtain ⟨-, hf, e⟩ := clean_step hd
  obtain ⟨hni, hb, harm⟩ := h
  have hdisp : ∀ n sl, l = .disp n sl → n = 0 := by
    rintro n sl rfl
    simp [fails] at hf
    rw [hf.2.2.1, hb]
    rfl
  refine ⟨?_, hdisp⟩
  -- a label that only moves the phase, and not into `features.get`, leaves the armed state as it is
  have mv : ∀ {p : Phase}, p ≠ .afterGet1 →
      s.slots = .brk ∨ ((pendingFinal s.notifs = true ∨ s.tripDue = true) ∧ p ≠ .afterGet1) :=
    fun hp => harm.imp id fun h => ⟨h.1, hp⟩
  cases l
  case get2 t2 slots got sleep running =>
    obtain ⟨hph, rfl, hbt⟩ := get2_clean hd
    have hask : s.slots.ask = some 0 := by
      rcases harm with h | h
      · rw [h]; rfl
      · exact (hph.resolve_left h.2).1
    refine ⟨by rw [e]; simp [stepD], by rw [hbt, get2Batch, hask]; exact getBatch_zero _ _, ?_⟩
    rw [e]
    simp only [stepD]
    rcases harm with h | h
    · exact Or.inl h
    · have ht := (hph.resolve_left h.2).2
      exact Or.inr ⟨Or.inl (h.1.resolve_right (by simp [ht])), by simp⟩
  case notif i failed retried =>
    rw [e]
    rcases hn : s.notifs with _ | ⟨⟨nid, k, f', r'⟩, rest⟩ <;> simp [fails, hn] at hf
    obtain ⟨-, ⟨⟨⟨rfl, rfl⟩, rfl⟩, ht⟩, -⟩ := hf
    refine ⟨hni, hb, harm.imp id fun h => ⟨?_, h.2⟩⟩
    simp only [stepD, hn, isEmpty_cons, tail_cons]
    -- the notification of a final failure makes its trip due
    rcases h.1 with h1 | h1
    · simp only [hn, pendingFinal, any_cons, Bool.or_eq_true] at h1
      rcases h1 with h1 | h1
      · simp only [isFinal, Bool.and_eq_true, Bool.not_eq_true'] at h1
        simp [tripFailFast, hff, h1.1, h1.2]
      · exact Or.inl h1
    · simp [ht] at h1
  case endA i failed retried t =>
    rw [e]
    cases hfd : s.running.find? (fun e => e.id == i) with
    | none => simp [fails, hfd] at hf
    | some x =>
      refine ⟨hni, hb, harm.imp id fun h => ⟨h.1.imp (fun h1 => ?_) id, h.2⟩⟩
      simp only [stepD]
      exact pendingFinal_append _ _ h1
  all_goals rw [e]
  all_goals simp [fails] at hf
  all_goals simp only [stepD]
  case hookTake => exact absurd hf hni
  case exit => exact ⟨by simp, hb, mv (by simp)⟩
  case get1 =>
    -- every notification is drained and no trip is due: armed means `Break`
    refine ⟨by simp, hb, Or.inl (harm.resolve_right fun h => ?_)⟩
    simp [pendingFinal, hf.2.1, hf.2.2.1] at h
  case idle fin sleep => exact ⟨by cases fin <;> simp, hb, mv (by cases fin <;> simp)⟩
  case idleYield => exact ⟨by simp, hb, mv (by simp)⟩
  case idleSlept => exact ⟨by simp, hb, mv (by simp)⟩
  case idleContinue => exact ⟨by simp, hb, mv (by simp)⟩
  case disp n slots =>
    refine ⟨by simp, rfl, (mv (p := .selecting) (by simp)).imp (fun h => ?_) id⟩
    rw [hf.2.2.2, h]
    rfl
  case cons got =>
    refine ⟨by simp, hb, (mv (p := .draining) (by simp)).imp (fun h => ?_) id⟩
    rw [hf.2.1, h]
    rfl
  case brk => exact ⟨hni, hb, Or.inl rfl⟩
  all_goals exact ⟨hni, hb, harm⟩

/-- once tripped, always tripped: `AInv` with the first disjunct -/
def Tripped (s : SState) : Prop := s.phase ≠ .init ∧ s.slots = .brk

theorem tripped_step (c : SCfg) (s : SState) (l : Label) (h : Tripped s) (hd : (stepL c s l).dis = []) :
    Tripped (stepL c s l) := by
  obtain ⟨-, hf, e⟩ := clean_step hd
  rw [e]
  obtain ⟨hni, hb⟩ := h
  cases l
  all_goals simp [fails] at hf
  all_goals simp only [stepD]
  case hookTake => exact absurd hf hni
  case exit => exact ⟨by simp, hb⟩
  case get1 => exact ⟨by simp, hb⟩
  case get2 => exact ⟨by simp, hf.2.2.1 ▸ hb⟩
  case idle fin sleep => exact ⟨by cases fin <;> simp, hb⟩
  case idleYield => exact ⟨by simp, hb⟩
  case idleSlept => exact ⟨by simp, hb⟩
  case idleContinue => exact ⟨by simp, hb⟩
  case disp => exact ⟨by simp, by rw [hf.2.2.2, hb]; rfl⟩
  case cons => exact ⟨by simp, by rw [hf.2.1, hb]; rfl⟩
  case brk => exact ⟨hni, rfl⟩
  all_goals exact ⟨hni, hb⟩

theorem tripped_run (c : SCfg) (ls : List Label) (s : SState) (h : Tripped s)
    (hc : Clean0 (ls.foldl (stepL c) s) = true) : Tripped (ls.foldl (stepL c) s) :=
  clean0_log c (fun _ => Tripped) (fun _ s l => tripped_step c s l) ls [] s h hc

theorem ainv_run (c : SCfg) (hff : c.failFast = true) (ls : List Label) (s : SState) (h : AInv s)
    (hc : Clean0 (ls.foldl (stepL c) s) = true) :
    AInv (ls.foldl (stepL c) s) ∧ ∀ n sl, Label.disp n sl ∈ ls → n = 0 :=
  (clean0_run c AInv (fun l => ∀ n sl, l = .disp n sl → n = 0) (ainv_step c hff) ls s h hc).imp_right
    fun h0 n sl hm => h0 _ hm n sl rfl

theorem ainv_after_final_end (c : SCfg) (pre : List Label) (id t : Nat)
    (hc : Clean0 (accept c (pre ++ [.endA id true false t])) = true)
    (hsel : (accept c pre).phase = .selecting) : AInv (accept c (pre ++ [.endA id true false t])) := by
  rw [accept_snoc] at hc ⊢
  -- while selecting, nothing is handed out
  have hb : (accept c pre).batch = [] := nobatch_accept c pre (clean0_step_mono c _ _ hc) (by simp [hsel])
  obtain ⟨-, hf, e⟩ := clean_step (clean0_iff.mp hc)
  rw [e]
  cases hfd : (accept c pre).running.find? (fun e => e.id == id) with
  | none => simp [fails, hfd] at hf
  | some x =>
    simp only [stepD, hfd]
    exact ⟨by simp [hsel], hb, Or.inr ⟨Or.inl (by simp [pendingFinal, isFinal]), by simp [hsel]⟩⟩

end Cuke.SchedTrip
