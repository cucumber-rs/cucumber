import Cuke.Model.SchedLts
import Cuke.Lemmas.SchedLts
import Cuke.Lemmas.Sched
import Cuke.Lemmas.SchedStep
/-!
  The slot ledger as an invariant of the scheduler LTS (`accept`), for C06.
  `Good` = the log raised no disagreement of the classes the slot accounting depends on (K, I, Q); read class by class
  (`good_step`) it turns a step that stays `Good` into the guards of its label.
-/
namespace Cuke.SchedInv
open Cuke List Cuke.SchedL

def Good (s : SState) : Bool := s.dis.all (fun d => d.cls != .K && d.cls != .I && d.cls != .Q)

/-- the slot ledger against the in-flight total `tot` = running + finished-but-not-yet-consumed:
    while dispatching continues, free + tot = limit; once fail-fast tripped, tot ≤ limit (and only shrinks) -/
def slotsOk (k : Nat) (sl : Slots) (tot : Nat) : Prop :=
  match sl with
  | .cont (some f) => f + tot = k
  | .cont none => False
  | .brk => tot ≤ k

/-- nothing runs before the hook is taken; afterwards the ledger is exact; a batch fits what `get` may hand out -/
def InvK (c : SCfg) (s : SState) : Prop :=
  (s.phase = .init → s.running = [] ∧ s.endedUnconsumed = 0) ∧
  (s.phase ≠ .init → ∀ k, c.limit = some k → slotsOk k s.slots (s.running.length + s.endedUnconsumed)) ∧
  (s.phase = .afterGet2 → ∀ n, s.slots.ask = some n → s.batch.length ≤ n)

structure KView where
  phaseInit : Bool
  slots : Slots
  running : Nat
  ended : Nat
  deriving DecidableEq

def view (s : SState) : KView := ⟨s.phase == .init, s.slots, s.running.length, s.endedUnconsumed⟩

def chk (s : SState) (b : Bool) (cls : DClass) (m : String) : SState := if b then s else s.note cls m

def kiq (x : DClass) : Bool := x != .K && x != .I && x != .Q

theorem good_no (s : SState) (h : Good s = true) (x : DClass) (hx : kiq x = false) :
    s.dis.any (fun d => d.cls == x) = false := by
  simp only [any_eq_false, beq_iff_eq]
  intro d hd hdx
  have hk : kiq d.cls = true := all_eq_true.mp h d hd
  rw [hdx, hx] at hk
  cases hk

theorem good_no_K (s : SState) (h : Good s = true) : s.dis.any (fun d => d.cls == .K) = false := good_no s h .K rfl

theorem length_eraseP_of_find {α} (p : α → Bool) (l : List α) (a : α) (h : l.find? p = some a) :
    (l.eraseP p).length + 1 = l.length := by
  have := length_eraseP_of_mem (mem_of_find?_eq_some h) (find?_some h)
  have := length_pos_of_mem (mem_of_find?_eq_some h)
  omega

section
open Cuke.SchedStep

theorem good_step (c : SCfg) (s : SState) (l : Label) :
    Good (stepL c s l) = (Good s && (fails c s l).all kiq) := all_cls_step kiq c s l

theorem good_step_mono (c : SCfg) (s : SState) (l : Label) (hg : Good (stepL c s l) = true) : Good s = true := by
  rw [good_step, Bool.and_eq_true] at hg
  exact hg.1

theorem slotsOk_brk {k : Nat} {sl : Slots} {n : Nat} (h : slotsOk k sl n) : slotsOk k .brk n := by
  cases sl with
  | brk => exact h
  | cont f => cases f with
    | none => exact h.elim
    | some f => simp only [slotsOk] at h ⊢; omega

theorem step_inv (c : SCfg) (s : SState) (l : Label) (h : InvK c s) (hg : Good (stepL c s l) = true) :
    InvK c (stepL c s l) := by
  rw [good_step, Bool.and_eq_true] at hg
  obtain ⟨_, hf⟩ := hg
  rw [stepL_eq]
  obtain ⟨h0, h1, h2⟩ := h
  have hni : ∀ p, s.phase = p → p ≠ .init → s.phase ≠ .init := fun p hp hn => hp ▸ hn
  cases l
  all_goals simp [fails, kiq, -all_eq_true] at hf
  all_goals simp only [stepD, InvK]
  case hookTake =>
    obtain ⟨hr, he⟩ := h0 hf
    refine ⟨by simp, fun _ k hk => ?_, by simp⟩
    simp [hk, hr, he, slotsOk]
  case exit => simpa using h1 (hni _ hf.1 (by decide))
  case get1 => simpa using h1 (by rcases hf.1 with h | h <;> simp [h])
  case get2 t2 slots got sleep running =>
    obtain ⟨hph, rfl, -, hq⟩ := hf
    have hp : s.phase ≠ .init := by
      intro hi
      simp [get2Early, hi] at hph
    refine ⟨by simp, fun _ => h1 hp, fun _ n hn => ?_⟩
    rw [get2Out_eq hq.1, get2Batch, hn]
    exact getBatch_length_le _ n _
  case idle fin sleep =>
    have := h1 (hni _ hf.1 (by decide))
    cases fin <;> simpa using this
  case idleContinue => simpa using h1 (by rcases hf.1 with h | h <;> simp [h])
  case idleYield => simpa using h1 (hni _ hf.1 (by decide))
  case idleSlept => simpa using h1 (hni _ hf.1 (by decide))
  case disp n slots =>
    obtain ⟨hp, -, rfl⟩ := hf
    refine ⟨by simp, fun _ k hk => ?_, by simp⟩
    have hb := h2 hp
    have := h1 (hni _ hp (by decide)) k hk
    cases hsl : s.slots with
    | brk =>
      have := hb 0 (by rw [hsl]; rfl)
      simp_all [slotsOk, Slots.onDispatch]
    | cont f => cases f with
      | none => simp [hsl, slotsOk] at this
      | some f =>
        have := hb f (by rw [hsl]; rfl)
        simp_all [slotsOk, Slots.onDispatch]
        omega
  case cons got =>
    obtain ⟨hp, rfl, he⟩ := hf
    refine ⟨by simp, fun _ k hk => ?_, by simp⟩
    have := h1 (hni _ hp (by decide)) k hk
    cases hsl : s.slots with
    | brk => simp_all [slotsOk, Slots.onConsume]; omega
    | cont f => cases f with
      | none => simp [hsl, slotsOk] at this
      | some f => simp_all [slotsOk, Slots.onConsume]; omega
  case endA id failed retried t =>
    cases hfd : s.running.find? (fun e => e.id == id) with
    | none => simpa [hfd, eraseP_of_find?_none hfd] using ⟨h0, h1, h2⟩
    | some e =>
      have hlen := length_eraseP_of_find _ _ _ hfd
      have hne : s.phase ≠ .init := fun hi => by simp [(h0 hi).1] at hfd
      refine ⟨fun hi => absurd hi hne, fun _ k hk => ?_, h2⟩
      have := h1 hne k hk
      simp only [Option.elim_some]
      rwa [show (s.running.eraseP fun x => x.id == id).length + (s.endedUnconsumed + 1) =
        s.running.length + s.endedUnconsumed by omega]
  case brk => exact ⟨by simp [hf], fun hp k hk => slotsOk_brk (h1 hp k hk), by simp [hf]⟩
  all_goals exact ⟨h0, h1, h2⟩
end

end Cuke.SchedInv
