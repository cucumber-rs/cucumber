import Cuke.Lemmas.SchedExit
/-!
  C04 / C10 / C06, facts about WHOLE runs of the scheduler acceptor (every log replayed without a disagreement):

  * **no spinning** (C04): the loop of `execute` cannot go round without either doing work or handing control back to
    the executor. Counting labels of the log: every iteration (`GET2`) beyond the first is paid for by an
    `IDLE continue` or by a consumed completion (`CONS`); every `IDLE continue` is paid for by a poll boundary that was
    crossed while `execute` sat in its idle branch (the stream returned `Pending`, so `join` polled the parser side);
    every consumed completion is paid for by an attempt that ended. Hence
    `#iterations ≤ 1 + #polls + #ended attempts` — and the number of attempts is bounded before the run starts
    (`lts_total_attempts_bounded`).

  * **the panic hook window** (C10): while anything is in flight (dispatched, or handed out by `get`) the process
    panic hook is the silent one installed at the start of `execute`; it is put back before `execute` returns.

  * **user code** (C06, C07): a callback is only entered or left for an attempt in flight, while `execute` awaits its
    scenarios (`cbIn_clean`, `cbOut_clean`).
-/
namespace Cuke.SchedSpin
open Cuke List Cuke.SchedL Cuke.SchedInv Cuke.SchedOrd Cuke.SchedCons

/-- label counts of a log prefix: iterations (`GET2`), idle continues, consumed completions, polls, attempt ends -/
structure Cnt where
  g : Nat := 0
  c : Nat := 0
  k : Nat := 0
  p : Nat := 0
  e : Nat := 0
  deriving Repr, DecidableEq

def cstep (n : Cnt) : Label → Cnt
  | .get2 .. => { n with g := n.g + 1 }
  | .idleContinue => { n with c := n.c + 1 }
  | .cons _ => { n with k := n.k + 1 }
  | .poll => { n with p := n.p + 1 }
  | .endA .. => { n with e := n.e + 1 }
  | _ => n

def count (ls : List Label) : Cnt := ls.foldl cstep {}

/-- an iteration has begun (`GET2` seen) and was not yet paid for -/
def slack : Phase → Nat
  | .init | .loopTop | .afterGet1 | .draining => 0
  | _ => 1

def inIdle (s : SState) : Bool := s.phase == .idle1 || s.phase == .idle2

structure SInv (s : SState) (n : Cnt) : Prop where
  a : n.g ≤ n.c + n.k + slack s.phase
  b : n.c + (if s.polledIdle && inIdle s then 1 else 0) ≤ n.p
  c : n.k + s.endedUnconsumed = n.e

def HInv (s : SState) : Prop :=
  match s.phase with
  | .init => s.hookTaken = false ∧ s.running = [] ∧ s.batch = []
  | .exiting => s.running = [] ∧ s.batch = []
  | .exited => s.hookTaken = false ∧ s.running = [] ∧ s.batch = []
  | _ => s.hookTaken = true

section
open Cuke.SchedStep

theorem sinv_step (c : SCfg) (s : SState) (l : Label) (n : Cnt) (h : SInv s n) (hd : (stepL c s l).dis = []) :
    SInv (stepL c s l) (cstep n l) := by
  obtain ⟨-, hf, e⟩ := clean_step hd
  rw [e]
  obtain ⟨ha, hb, hk⟩ := h
  have hbC : n.c ≤ n.p := Nat.le_trans (Nat.le_add_right _ _) hb
  cases l
  all_goals simp [fails] at hf
  all_goals simp only [stepD, cstep]
  case poll =>
    have h1 : ∀ b : Bool, (if b = true then 1 else 0) ≤ 1 := fun b => by cases b <;> decide
    exact ⟨ha, Nat.add_le_add hbC (h1 _), hk⟩
  case hookTake => exact ⟨by simpa [slack, hf] using ha, by simpa [inIdle] using hbC, hk⟩
  case exit => exact ⟨by simpa [slack, hf.1] using ha, by simpa [inIdle] using hbC, hk⟩
  case get1 =>
    exact ⟨by rcases hf.1 with hp | hp <;> simpa [slack, hp] using ha, by simpa [inIdle] using hbC, hk⟩
  case get2 =>
    have hsl : slack s.phase = 0 := by
      cases hp : s.phase <;> simp [get2Early, hp] at hf <;> rfl
    refine ⟨?_, by simpa [inIdle] using hbC, hk⟩
    show n.g + 1 ≤ n.c + n.k + 1
    omega
  case idle fin sleep =>
    refine ⟨?_, by simpa using hbC, hk⟩
    rw [hf.1] at ha
    cases fin <;> exact ha
  case idleYield => exact ⟨by simpa [slack, hf.1] using ha, by simpa [inIdle, hf.1] using hb, hk⟩
  case idleSlept => exact ⟨by simpa [slack, hf.1] using ha, by simpa [inIdle, hf.1] using hb, hk⟩
  case idleContinue =>
    have hsl : slack s.phase = 1 ∧ inIdle s = true := by rcases hf.1 with hp | hp <;> simp [slack, inIdle, hp]
    rw [hf.2.2, hsl.2] at hb
    refine ⟨?_, by simpa [inIdle] using hb, hk⟩
    show n.g ≤ n.c + 1 + n.k + 0
    omega
  case disp => exact ⟨by simpa [slack, hf.1] using ha, by simpa [inIdle] using hbC, hk⟩
  case cons =>
    rw [hf.1] at ha
    refine ⟨?_, by simpa [inIdle] using hbC, ?_⟩
    · show n.g ≤ n.c + (n.k + 1) + 0
      simp only [slack] at ha
      omega
    · show n.k + 1 + _ = n.e
      simp only [hf.2.1, if_true]
      omega
  case endA id failed retried t =>
    cases hfd : s.running.find? (fun e => e.id == id) with
    | none => simp [hfd] at hf
    | some x =>
      refine ⟨ha, hb, ?_⟩
      show n.k + (s.endedUnconsumed + 1) = n.e + 1
      omega
  all_goals exact ⟨ha, hb, hk⟩

theorem hinv_step (c : SCfg) (s : SState) (l : Label) (h : HInv s) (hd : (stepL c s l).dis = []) :
    HInv (stepL c s l) := by
  obtain ⟨-, hf, e⟩ := clean_step hd
  rw [e]
  cases l
  all_goals simp [fails] at hf
  all_goals simp only [stepD, HInv] at h ⊢
  case hookRestore => simpa [hf.1] using h
  case exit => simpa [hf.1, hf.2] using h
  case get1 => rcases hf.1 with hp | hp <;> simpa [hp] using h
  case get2 => cases hp : s.phase <;> simp_all [get2Early]
  case idle fin sleep =>
    cases fin
    · simpa [hf.1] using h
    · exact ⟨hf.2.1.1.1, hf.2.1.2⟩
  case idleYield => simpa [hf.1] using h
  case idleSlept => simpa [hf.1] using h
  case idleContinue => rcases hf.1 with hp | hp <;> simpa [hp] using h
  case disp => simpa [hf.1] using h
  case cons => simpa [hf.1] using h
  case endA id failed retried t =>
    -- outside the loop nothing is in flight, so nothing can end
    cases hp : s.phase <;> simp_all
  all_goals exact h

theorem sinv_init : SInv ({} : SState) ({} : Cnt) := ⟨by simp [slack], by simp [inIdle], by simp⟩

theorem sinv_accept (c : SCfg) (ls : List Label) (hc : Clean0 (accept c ls) = true) : SInv (accept c ls) (count ls) :=
  clean0_accept c (fun pre s => SInv s (count pre)) sinv_init
    (fun pre s l h hd => by
      have := sinv_step c s l _ h hd
      rwa [show cstep (count pre) l = count (pre ++ [l]) by simp [count]] at this) ls hc

theorem hinv_accept (c : SCfg) (ls : List Label) (hc : Clean0 (accept c ls) = true) : HInv (accept c ls) :=
  clean0_accept c (fun _ => HInv) ⟨rfl, rfl, rfl⟩ (fun _ s l => hinv_step c s l) ls hc

theorem slack_le_one (p : Phase) : slack p ≤ 1 := by cases p <;> simp [slack]

theorem hinv_in_flight {s : SState} (h : HInv s) (hfl : s.running ≠ [] ∨ s.batch ≠ []) : s.hookTaken = true := by
  unfold HInv at h
  cases hp : s.phase <;> simp_all

theorem hinv_exited {s : SState} (h : HInv s) (hx : s.phase = .exited) : s.hookTaken = false ∧ s.running = [] := by
  unfold HInv at h
  rw [hx] at h
  exact ⟨h.1, h.2.1⟩

end

/-! ### user code runs only for attempts in flight, while `execute` awaits its scenarios -/
def attOf (e : Entry) : Nat := (e.ret.map (·.retries.current)).getD 0

section
open Cuke.SchedStep

theorem cbIn_clean {c : SCfg} {s : SState} {sc att t : Nat} (hc : Clean0 (stepL c s (.cbIn sc att t)) = true) :
    s.phase = .selecting ∧ ∃ e ∈ s.running, e.key.scen = sc ∧ attOf e = att := by
  simpa [fails, userCodeOk, attOf] using (clean_step (clean0_iff.mp hc)).2.1

theorem cbOut_clean {c : SCfg} {s : SState} {sc att t : Nat} (hc : Clean0 (stepL c s (.cbOut sc att t)) = true) :
    s.phase = .selecting ∧ ∃ e ∈ s.running, e.key.scen = sc ∧ attOf e = att := by
  simpa [fails, userCodeOk, attOf] using (clean_step (clean0_iff.mp hc)).2.1

end

def isGet2 : Label → Bool | .get2 .. => true | _ => false
def isIdleContinue : Label → Bool | .idleContinue => true | _ => false
def isCons : Label → Bool | .cons _ => true | _ => false
def isPoll : Label → Bool | .poll => true | _ => false
def isEndA : Label → Bool | .endA .. => true | _ => false

theorem foldl_cstep (ls : List Label) : ∀ n : Cnt, ls.foldl cstep n =
    ⟨n.g + ls.countP isGet2, n.c + ls.countP isIdleContinue, n.k + ls.countP isCons, n.p + ls.countP isPoll,
     n.e + ls.countP isEndA⟩ := by
  induction ls with
  | nil => intro n; simp
  | cons l rest ih =>
    intro n
    rw [foldl_cons, ih]
    cases l <;> simp [cstep, countP_cons, isGet2, isIdleContinue, isCons, isPoll, isEndA] <;> omega

theorem count_eq (ls : List Label) : count ls =
    ⟨ls.countP isGet2, ls.countP isIdleContinue, ls.countP isCons, ls.countP isPoll, ls.countP isEndA⟩ := by
  unfold count; rw [foldl_cstep]; simp

end Cuke.SchedSpin
