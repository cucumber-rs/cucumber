import Cuke.Model.Sched
/-! Helper lemmas about the scheduler's pure functions (used by the property files C03–C08). -/
namespace Cuke.SchedL
open Cuke List

theorem drainQ_perm (ready : Entry → Bool) (cnt : Option Nat) (l : List Entry) :
    (drainQ ready cnt l).1 ++ (drainQ ready cnt l).2.1 ~ l := by
  induction l generalizing cnt with
  | nil => simp [drainQ]
  | cons e rest ih =>
    unfold drainQ
    by_cases h0 : (cnt == some 0) = true
    · simp [h0]
    · simp only [h0, Bool.false_eq_true, if_false]
      by_cases hr : ready e = true
      · simp only [hr, if_true]
        exact (ih _).cons e
      · simp only [hr, Bool.false_eq_true, if_false]
        have := ih cnt
        exact (perm_middle.trans (this.cons e))

theorem drainQ_sublist (ready : Entry → Bool) (cnt : Option Nat) (l : List Entry) :
    (drainQ ready cnt l).1.Sublist l ∧ (drainQ ready cnt l).2.1.Sublist l := by
  induction l generalizing cnt with
  | nil => simp [drainQ]
  | cons e rest ih =>
    unfold drainQ
    by_cases h0 : (cnt == some 0) = true
    · simp [h0]
    · simp only [h0, Bool.false_eq_true, if_false]
      by_cases hr : ready e = true
      · simp only [hr, if_true]
        exact ⟨(ih _).1.cons_cons e, (ih _).2.cons e⟩
      · simp only [hr, Bool.false_eq_true, if_false]
        exact ⟨(ih _).1.cons e, (ih _).2.cons_cons e⟩

theorem drainQ_all_ready (ready : Entry → Bool) (cnt : Option Nat) (l : List Entry) :
    ∀ e ∈ (drainQ ready cnt l).1, ready e = true := by
  induction l generalizing cnt with
  | nil => simp [drainQ]
  | cons e rest ih =>
    unfold drainQ
    by_cases h0 : (cnt == some 0) = true
    · simp [h0]
    · simp only [h0, Bool.false_eq_true, if_false]
      by_cases hr : ready e = true
      · simp only [hr, if_true]
        intro x hx
        simp only [mem_cons] at hx
        rcases hx with rfl | hx
        · exact hr
        · exact ih _ x hx
      · simp only [hr, Bool.false_eq_true, if_false]
        exact ih _

theorem drainQ_none_ready (ready : Entry → Bool) (cnt : Option Nat) (l : List Entry)
    (h : ∀ e ∈ l, ready e = false) : (drainQ ready cnt l).1 = [] :=
  eq_nil_iff_forall_not_mem.mpr fun x hx => by
    have := drainQ_all_ready ready cnt l x hx
    rw [h x ((drainQ_sublist ready cnt l).1.subset hx)] at this
    cases this

theorem drainQ_length_le (ready : Entry → Bool) (n : Nat) (l : List Entry) :
    (drainQ ready (some n) l).1.length ≤ n := by
  induction l generalizing n with
  | nil => simp [drainQ]
  | cons e rest ih =>
    unfold drainQ
    by_cases h0 : n = 0
    · simp [h0]
    · have : ((some n : Option Nat) == some 0) = false := by simp [h0]
      simp only [this, Bool.false_eq_true, if_false]
      by_cases hr : ready e = true
      · simp only [hr, if_true, Option.map_some, length_cons]
        have := ih (n - 1)
        omega
      · simp only [hr, Bool.false_eq_true, if_false]
        exact ih n

theorem drainQ_maximal (ready : Entry → Bool) (n : Nat) (l : List Entry)
    (h : (drainQ ready (some n) l).1.length < n) :
    ∀ e ∈ (drainQ ready (some n) l).2.1, ready e = false := by
  induction l generalizing n with
  | nil => simp [drainQ]
  | cons e rest ih =>
    unfold drainQ at h ⊢
    by_cases h0 : n = 0
    · simp [h0] at h
    · have hz : ((some n : Option Nat) == some 0) = false := by simp [h0]
      simp only [hz, Bool.false_eq_true, if_false] at h ⊢
      by_cases hr : ready e = true
      · simp only [hr, if_true, Option.map_some, length_cons] at h ⊢
        exact ih (n - 1) (by omega)
      · simp only [hr, Bool.false_eq_true, if_false] at h ⊢
        intro x hx
        simp only [mem_cons] at hx
        rcases hx with rfl | hx
        · simpa using hr
        · exact ih n h x hx

theorem drainQ_unlimited (ready : Entry → Bool) (l : List Entry) :
    ∀ e ∈ (drainQ ready none l).2.1, ready e = false := by
  induction l with
  | nil => simp [drainQ]
  | cons e rest ih =>
    unfold drainQ
    simp only [show ((none : Option Nat) == some 0) = false from rfl, Bool.false_eq_true, if_false]
    by_cases hr : ready e = true
    · simp only [hr, if_true, Option.map_none]; exact ih
    · simp only [hr, Bool.false_eq_true, if_false]
      intro x hx
      simp only [mem_cons] at hx
      rcases hx with rfl | hx
      · simpa using hr
      · exact ih x hx

theorem drainQ_skip_not_ready (ready : Entry → Bool) (cnt : Option Nat) (e : Entry) (rest : List Entry)
    (h0 : cnt ≠ some 0) (hr : ready e = false) :
    (drainQ ready cnt (e :: rest)).1 = (drainQ ready cnt rest).1 := by
  have : (cnt == some 0) = false := by simpa using h0
  simp [drainQ, this, hr]

theorem getBatch_length_le (ready : Entry → Bool) (n : Nat) (q : Queues) :
    (getBatch ready (some n) q).1.length ≤ n := by
  unfold getBatch
  by_cases h0 : n = 0
  · simp [h0]
  · have hz : ((some n : Option Nat) == some 0) = false := by simp [h0]
    simp only [hz, Bool.false_eq_true, if_false]
    split
    · have := drainQ_length_le ready 1 q.serial
      simp only
      omega
    · exact drainQ_length_le ready n q.conc

theorem getBatch_all_ready (ready : Entry → Bool) (ask : Option Nat) (q : Queues) :
    ∀ e ∈ (getBatch ready ask q).1, ready e = true := by
  unfold getBatch
  by_cases h0 : (ask == some 0) = true
  · simp [h0]
  · simp only [h0, Bool.false_eq_true, if_false]
    split
    · exact drainQ_all_ready ready _ _
    · exact drainQ_all_ready ready _ _

end Cuke.SchedL
