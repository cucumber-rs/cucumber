import Cuke.Lemmas.SchedFin
/-!
  C05 over whole runs: **a budget of N yields at most N + 1 attempts.** For every log clean in both acceptor layers,
  the (scenario, `current`) pairs of the attempts that were dispatched are pairwise distinct — the waiting entry of a
  scenario always carries a HIGHER `current` than every attempt of it dispatched before (the successor is built by
  `next_try` from the attempt in flight) — and every `current` is bounded by the resolved budget
  (`C05.lts_attempt_within_budget`), so a scenario is dispatched at most N + 1 times.
-/
namespace Cuke.SchedCount
open Cuke List Cuke.SchedL Cuke.SchedInv Cuke.SchedRetry Cuke.SchedCons Cuke.SchedOrd Cuke.SchedSeq Cuke.SchedFin

def cur (ret : Option RetryOptions) : Nat := (ret.map (·.retries.current)).getD 0

def sc (e : Entry) : Nat × Nat := (e.key.scen, cur e.ret)

def waiting (s : SState) : List Entry := s.q.serial ++ s.q.conc ++ s.batch

theorem cur_next (r : Option RetryOptions) (o : RetryOptions) (h : nextTry r true = some o) : cur (some o) = cur r + 1 := by
  cases r with
  | none => simp [nextTry] at h
  | some r0 => simp [cur, (nextTry_values h).1]

def dstep (s : SState) (d : List (Nat × Nat)) : Label → List (Nat × Nat)
  | .disp _ _ => d ++ s.batch.map sc
  | _ => d

section
open Cuke.SchedStep

theorem ins_waiting {c : SCfg} {s : SState} {t : Nat} {ps pc : List QE} (hf : insFails c s t ps pc = [])
    (e' : Entry) (he : e' ∈ (insQ c s t ps pc).serial ++ (insQ c s t ps pc).conc) :
    (∃ x ∈ s.q.serial ++ s.q.conc, e'.key = x.key ∧ e'.ret = x.ret) ∨
    (∃ f, s.pendingFeat = some f ∧ ∃ x ∈ newEntries c ((c.feat? f).getD ⟨f, [], [], []⟩), e'.key = x.key ∧ e'.ret = x.ret) ∨
    (∃ p ∈ s.running, ∃ o, nextTry p.ret true = some o ∧ e'.key = p.key ∧ e'.ret = some o) := by
  have adopt : ∀ q : Queues, e' ∈ (adoptQ q ps pc).serial ++ (adoptQ q ps pc).conc →
      ∃ x ∈ q.serial ++ q.conc, e'.key = x.key ∧ e'.ret = x.ret := by
    intro q hq
    rcases mem_append.mp hq with hq | hq
    · obtain ⟨x, hx, h1, -, h3⟩ := mem_adoptIds _ _ e' hq
      exact ⟨x, mem_append_left _ hx, h1, h3⟩
    · obtain ⟨x, hx, h1, -, h3⟩ := mem_adoptIds _ _ e' hq
      exact ⟨x, mem_append_right _ hx, h1, h3⟩
  have ha : (insFails c s t ps pc).all (fun _ => false) = true := by rw [hf]; rfl
  rcases ins_cases rfl rfl ha with ⟨f, hpf, -, hq⟩ | ⟨-, ser, q, p, o, -, hr, ho, -, hq⟩
  · rw [hq] at he
    obtain ⟨x, hx, hxe⟩ := adopt _ he
    rcases mem_insertInitial _ _ _ x hx with h1 | h1 | h1
    · exact Or.inl ⟨x, h1, hxe⟩
    · exact Or.inr (Or.inl ⟨f, hpf, x, (mem_filter.mp h1).1, hxe⟩)
    · exact Or.inr (Or.inl ⟨f, hpf, x, (mem_filter.mp h1).1, hxe⟩)
  · rw [hq] at he
    obtain ⟨x, hx, hxe⟩ := adopt _ he
    rcases mem_insertRetried _ _ _ x hx with h1 | ⟨h1, -, h3⟩
    · exact Or.inl ⟨x, h1, hxe⟩
    · exact Or.inr (Or.inr ⟨p, mem_of_find?_eq_some hr, o, ho, hxe.1.trans h1, hxe.2.trans h3⟩)

theorem get2_waiting (s : SState) (t : Nat) (sl : Slots) (got : List Nat) :
    ∀ e ∈ (get2Out s t sl got).2.serial ++ (get2Out s t sl got).2.conc ++ (get2Out s t sl got).1,
      e ∈ s.q.serial ++ s.q.conc := by
  intro e he
  unfold get2Out at he
  simp only at he
  split at he
  · simp only [get2Batch, mem_append] at he
    exact mem_getBatch _ _ _ e
      (he.elim (fun h => h.elim (fun h => Or.inr (Or.inl h)) fun h => Or.inr (Or.inr h)) Or.inl)
  · simp only [mem_append, mem_filter, mem_filterMap] at he ⊢
    rcases he with (h | h) | ⟨i, _, h⟩
    · exact Or.inl h.1
    · exact Or.inr h.1
    · simpa [mem_append] using mem_of_find?_eq_some h

/-- the dispatch log `d` against the waiting entries `W` and the attempts in flight `Rn` -/
structure Disp (W Rn : List Entry) (d : List (Nat × Nat)) : Prop where
  nd : d.Nodup
  /-- a waiting entry is newer than every dispatched attempt of its scenario -/
  wait : ∀ e ∈ W, ∀ k, (e.key.scen, k) ∈ d → k < cur e.ret
  /-- an attempt in flight is recorded, and is the newest dispatched attempt of its scenario -/
  run : ∀ e ∈ Rn, sc e ∈ d ∧ ∀ k, (e.key.scen, k) ∈ d → k ≤ cur e.ret

/-- … and only scenarios of delivered, inserted features were ever dispatched -/
def DInv (c : SCfg) (n : NState) (d : List (Nat × Nat)) : Prop :=
  Disp (waiting n.base) n.base.running d ∧
    ∀ x k, (x, k) ∈ d → ∀ ft ∈ c.feats, x ∈ scenIds ft → Settled n.delivered n.base.pendingFeat ft.id

theorem dinv_init (c : SCfg) : DInv c {} [] :=
  ⟨⟨nodup_nil, by simp [waiting, Queues.empty], nofun⟩, nofun⟩

theorem nodup_of_map_nodup {α β : Type} (g : α → β) (m : List α) (h : (m.map g).Nodup) : m.Nodup :=
  (pairwise_map.mp h).imp fun hne heq => hne (congrArg g heq)

theorem same_scen_in_nodup (l : List Entry) (hnd : (l.map (·.key.scen)).Nodup) (a b : Entry) (ha : a ∈ l) (hb : b ∈ l)
    (h : a.key.scen = b.key.scen) : a = b :=
  have hp := pairwise_map.mp hnd
  Pairwise.forall_of_forall_of_flip (R := fun a b : Entry => a.key.scen = b.key.scen → a = b) (fun _ _ _ => rfl)
    (hp.imp fun hne h => absurd h hne) (hp.imp fun hne h => absurd h.symm hne) ha hb h

theorem mem_map_sc {B : List Entry} {x k : Nat} (h : (x, k) ∈ B.map sc) : ∃ b ∈ B, b.key.scen = x ∧ cur b.ret = k := by
  obtain ⟨b, hb, hsc⟩ := mem_map.mp h
  exact ⟨b, hb, congrArg Prod.fst hsc, congrArg Prod.snd hsc⟩

theorem Disp.dispatch {A B Rn : List Entry} {d : List (Nat × Nat)} (h : Disp (A ++ B) Rn d)
    (hqnd : ((A ++ B).map (·.key.scen)).Nodup) (hdis : ∀ x ∈ scens B, x ∉ scens Rn) :
    Disp A (Rn ++ B) (d ++ B.map sc) := by
  have hbnd : (B.map (·.key.scen)).Nodup := by
    rw [map_append] at hqnd
    exact (nodup_append.mp hqnd).2.1
  have hbw : ∀ b ∈ B, b ∈ A ++ B := fun b hb => mem_append_right _ hb
  refine ⟨?_, ?_, ?_⟩
  · refine nodup_append.mpr ⟨h.nd, ?_, ?_⟩
    · apply nodup_of_map_nodup Prod.fst
      simpa [sc, Function.comp_def] using hbnd
    · intro a ha b' hb' hab
      obtain ⟨e, he, rfl⟩ := mem_map.mp hb'
      have := h.wait e (hbw e he) (cur e.ret) (by rw [hab] at ha; exact ha)
      omega
  · intro e he k' hk'
    rcases mem_append.mp hk' with hk' | hk'
    · exact h.wait e (mem_append_left _ he) k' hk'
    · -- an entry of the batch with the scenario of `e` is `e`: in the queues and in the batch
      exfalso
      obtain ⟨b, hbm, hscen, -⟩ := mem_map_sc hk'
      have := same_scen_in_nodup _ hqnd b e (hbw b hbm) (mem_append_left _ he) hscen
      subst this
      rw [map_append] at hqnd
      exact (nodup_append.mp hqnd).2.2 _ (mem_map_of_mem he) _ (mem_map_of_mem hbm) rfl
  · intro e he
    rcases mem_append.mp he with he | he
    · obtain ⟨r1, r2⟩ := h.run e he
      refine ⟨mem_append_left _ r1, fun k' hk' => ?_⟩
      rcases mem_append.mp hk' with hk' | hk'
      · exact r2 k' hk'
      · exfalso
        obtain ⟨b, hbm, hscen, -⟩ := mem_map_sc hk'
        exact hdis b.key.scen (mem_map_of_mem hbm) (mem_map.mpr ⟨e, he, hscen.symm⟩)
    · refine ⟨mem_append_right _ (mem_map_of_mem he), fun k' hk' => ?_⟩
      rcases mem_append.mp hk' with hk' | hk'
      · have := h.wait e (hbw e he) k' hk'; omega
      · obtain ⟨b, hbm, hscen, hcur⟩ := mem_map_sc hk'
        have hbe := same_scen_in_nodup _ hbnd b e hbm he hscen
        subst hbe
        omega

theorem step_dinv (c : SCfg) (n : NState) (d : List (Nat × Nat)) (l : Label) (h : DInv c n d) (hn : NInv c n)
    (hc : NClean (stepN c n l) = true) : DInv c (stepN c n l) (dstep n.base d l) := by
  obtain ⟨-, hf, hk, e⟩ := nclean_step hc
  obtain ⟨h, hkn⟩ := h
  refine ⟨?_, fun x k hx ft hft hxf => settled_step hc ?_⟩
  · rw [e]
    simp only [waiting] at h ⊢
    cases l
    all_goals simp only [stepND, stepD, dstep]
    case ins t ps pc =>
      refine ⟨h.nd, fun e' he' k hk' => ?_, h.run⟩
      rcases mem_append.mp he' with he' | he'
      · rcases ins_waiting hf e' he' with ⟨x, hx, h1, h3⟩ | ⟨f, hpf, x, hx, h1, -⟩ | ⟨p, hp, o, ho, h1, h3⟩
        · rw [h3]; exact h.wait x (mem_append_left _ hx) k (h1 ▸ hk')
        · -- a scenario of the pending feature was never dispatched
          obtain ⟨ft, hfd, hxs⟩ := mem_pending (c := c) (f := f) (x := e'.key.scen)
            (by rw [h1, ← scens_newEntries]; exact mem_map_of_mem hx)
          obtain ⟨hm, hid⟩ := feat?_spec c f ft hfd
          exact absurd (by rw [hpf, hid]) (hkn _ k hk' ft hm hxs).2
        · have := (h.run p hp).2 k (h1 ▸ hk')
          rw [h3, cur_next p.ret o ho]
          omega
      · exact h.wait e' (mem_append_right _ he') k hk'
    case get2 t sl got b r =>
      exact ⟨h.nd, fun e' he' => h.wait e' (mem_append_left _ (get2_waiting _ t sl got e' he')), h.run⟩
    case disp k sl =>
      rw [append_nil]
      exact h.dispatch hn.qnd (overlaps_false _ _ (by simpa [okN] using hk))
    case endA id failed retried t => exact ⟨h.nd, h.wait, fun e' he' => h.run e' (mem_of_mem_eraseP he')⟩
    all_goals exact h
  · cases l
    case disp k' sl =>
      rcases mem_append.mp hx with hx | hx
      · exact hkn x k hx ft hft hxf
      · obtain ⟨b, hbm, hxb, -⟩ := mem_map_sc hx
        exact hn.deliv x (Or.inl (hxb ▸ mem_map_of_mem (mem_append_right _ hbm))) ft hft hxf
    all_goals exact hkn x k hx ft hft hxf

end

def runD (c : SCfg) (ls : List Label) (x : NState × List (Nat × Nat) × (List Nat × List Nat)) :
    NState × List (Nat × Nat) × (List Nat × List Nat) :=
  ls.foldl (fun x l => (stepN c x.1 l, dstep x.1.base x.2.1 l, gstep c x.1.base x.2.2 l)) x

theorem runD_state (c : SCfg) (ls : List Label) (x : NState × List (Nat × Nat) × (List Nat × List Nat)) :
    (runD c ls x).1 = ls.foldl (stepN c) x.1 :=
  foldl_ghost_fst (stepN c) (fun n x l => (dstep n.base x.1 l, gstep c n.base x.2 l)) ls x.1 x.2

/-- the (scenario, `current`) pairs dispatched in a run, in order -/
def dispatched (c : SCfg) (ls : List Label) : List (Nat × Nat) := (runD c ls ({}, [], ([], []))).2.1

theorem dispatched_inv (c : SCfg) (hwf : WF c) (ls : List Label) (hc : NClean (acceptN c ls) = true) :
    DInv c (acceptN c ls) (dispatched c ls) :=
  (acceptN_inv c hwf (fun n x l => (dstep n.base x.1 l, gstep c n.base x.2 l)) (fun n x => DInv c n x.1)
    (fun n x l hl h hc => step_dinv c n x.1 l h hl.1 hc) ([], ([], [])) (dinv_init c) ls hc).2

theorem nodup_bounded_length (l : List Nat) (n : Nat) (hnd : l.Nodup) (hb : ∀ k ∈ l, k < n) : l.length ≤ n := by
  have := hnd.length_le_of_subset (l₂ := range n) fun k hk => mem_range.mpr (hb k hk)
  rwa [length_range] at this

theorem dispatched_from_batch (c : SCfg) (ls : List Label) (x : NState × List (Nat × Nat) × (List Nat × List Nat))
    (p : Nat × Nat) (hp : p ∈ (runD c ls x).2.1) :
    p ∈ x.2.1 ∨ ∃ pre suf, ls = pre ++ suf ∧ ∃ e ∈ (pre.foldl (stepN c) x.1).base.batch, sc e = p := by
  induction ls generalizing x with
  | nil => exact Or.inl hp
  | cons l rest ih =>
    have := ih (stepN c x.1 l, dstep x.1.base x.2.1 l, gstep c x.1.base x.2.2 l) hp
    rcases this with h | ⟨pre, suf, hsplit, e, he, hsc⟩
    · -- added by this very label?
      cases l with
      | disp k sl =>
        simp only [dstep, mem_append, mem_map] at h
        rcases h with h | ⟨e, he, hsc⟩
        · exact Or.inl h
        · exact Or.inr ⟨[], .disp k sl :: rest, rfl, e, he, hsc⟩
      | _ => exact Or.inl h
    · exact Or.inr ⟨l :: pre, suf, by rw [hsplit]; rfl, e, he, hsc⟩

end Cuke.SchedCount
