import Cuke.Lemmas.SchedSeq
import Cuke.Lemmas.SchedExit
/-!
  C03, the last ORDER clause over whole runs: **a feature is finished only after the last event of its scenarios
  (retries included).** For every log replayed without a disagreement of either acceptor layer: at the
  notification at which the bookkeeping of `FinishedRulesAndFeatures` counts the last scenario of a feature (and the
  model owes `Feature::Finished`), no attempt of any scenario of that feature is waiting or in flight — and none ever
  is afterwards, so no scenario event of the feature can follow.

  The proof is a counting invariant. For every delivered-and-inserted feature `f` that is not closed yet:

      finished scenarios counted for f  +  scenarios of f that are waiting or in flight
                                        +  final (not retried) notifications of f still to be drained
        =  number of scenarios of f

  `FinishedRulesAndFeatures` keeps the same count per rule, so the argument is made once, for a `Grouping` of the
  scenarios (by feature here, by (feature, rule) in Lemmas/SchedFinRule.lean). It uses the lineage invariant `NInv` (one
  live entry per scenario; Lemmas/SchedSeq.lean) and the retry lineage `RInv` (every entry belongs to a scenario of a
  delivered feature; Lemmas/SchedRetry.lean).
-/
namespace Cuke.SchedFin
open Cuke List Cuke.SchedL Cuke.SchedInv Cuke.SchedRetry Cuke.SchedCons Cuke.SchedOrd Cuke.SchedSeq

/-- the counter as a function of the association list (features: keys `Nat`; rules: keys `Nat × Nat`) -/
def cntL {α : Type} [BEq α] (l : List (α × Nat)) (f : α) : Nat :=
  match l.find? (fun e => e.1 == f) with
  | some e => e.2
  | none => 0

/-- final (not retried) notifications of a feature that wait to be drained -/
def pendFinal (s : SState) (f : Nat) : Nat := s.notifs.countP (fun nt => nt.2.1.feat == f && !nt.2.2.2)

/-- the feature whose last scenario the next drained notification counts -/
def closes (c : SCfg) (s : SState) : Option Nat :=
  match s.notifs with
  | (_, k, _, r) :: _ =>
    if r then none else
    match s.br.feats.find? (fun e => e.1 == k.feat) with
    | some e => if c.nFeat k.feat == e.2 + 1 then some k.feat else none
    | none => none
  | [] => none

theorem pendFinal_append (s : SState) (l : List (Nat × ScenKey × Bool × Bool)) (f : Nat) :
    countP (fun nt : Nat × ScenKey × Bool × Bool => nt.2.1.feat == f && !nt.2.2.2) (s.notifs ++ l) =
      pendFinal s f + countP (fun nt : Nat × ScenKey × Bool × Bool => nt.2.1.feat == f && !nt.2.2.2) l := by
  simp [pendFinal, countP_append]

theorem countP_flip (l : List Nat) (hnd : l.Nodup) (p q : Nat → Bool) (x : Nat) (hx : x ∈ l) (hp : p x = true)
    (hq : q x = false) (hsame : ∀ y ∈ l, y ≠ x → q y = p y) : l.countP q + 1 = l.countP p := by
  induction l with
  | nil => cases hx
  | cons a l ih =>
    obtain ⟨ha, hnd'⟩ := nodup_cons.mp hnd
    rcases mem_cons.mp hx with rfl | hx'
    · have hrest : l.countP q = l.countP p := by
        apply countP_congr
        intro y hy
        have hne : y ≠ x := fun h => ha (h ▸ hy)
        rw [hsame y (mem_cons_of_mem _ hy) hne]
      simp [hp, hq, hrest]
    · have hne : a ≠ x := fun h => ha (h ▸ hx')
      have := ih hnd' hx' (fun y hy hyx => hsame y (mem_cons_of_mem _ hy) hyx)
      simp only [countP_cons, hsame a mem_cons_self hne]
      omega

/-- the scenarios among `ids` that are waiting (`Q`) or in flight (`R`) -/
def live (Q R ids : List Nat) : Nat := ids.countP fun x => decide (x ∈ Q ∨ x ∈ R)

theorem live_congr {Q R Q' R' ids : List Nat} (h : ∀ x ∈ ids, (x ∈ Q' ∨ x ∈ R') ↔ (x ∈ Q ∨ x ∈ R)) :
    live Q' R' ids = live Q R ids :=
  countP_congr fun x hx => by simp only [decide_eq_true_eq]; exact h x hx

theorem live_zero {Q R ids : List Nat} : live Q R ids = 0 ↔ ∀ x ∈ ids, ¬ (x ∈ Q ∨ x ∈ R) := by
  simp [live, countP_eq_zero]

theorem live_all {Q R ids : List Nat} (h : ∀ x ∈ ids, x ∈ Q ∨ x ∈ R) : live Q R ids = ids.length :=
  countP_eq_length.mpr fun x hx => by simpa using h x hx

theorem cntL_append_zero {α : Type} [BEq α] [LawfulBEq α] (l : List (α × Nat)) (g f : α) :
    cntL (l ++ [(g, 0)]) f = cntL l f := by
  unfold cntL
  simp only [find?_append]
  cases hfd : l.find? (fun e => e.1 == f) with
  | some e => simp
  | none =>
    simp only [Option.none_or, find?_cons, find?_nil]
    cases hgf : (g == f) <;> simp

/-- `start_scenarios` appends `(g, 0)` for unseen keys: every counter stays as it was -/
theorem cntL_startFold {α : Type} [BEq α] [LawfulBEq α] (f : α) (fs : List α) (acc : List (α × Nat) × List α) :
    cntL (BrL.addFeats fs acc).1 f = cntL acc.1 f := by
  induction fs generalizing acc with
  | nil => rfl
  | cons g rest ih =>
    rw [BrL.addFeats_cons, ih]
    split
    · rfl
    · exact cntL_append_zero _ _ _

theorem cntL_filter {α : Type} [BEq α] [LawfulBEq α] [DecidableEq α] (l : List (α × Nat)) (k f : α) :
    cntL (l.filter (fun e => !(e.1 == k))) f = if f = k then 0 else cntL l f := by
  unfold cntL
  rw [find?_filter]
  by_cases hfk : f = k
  · subst hfk
    rw [if_pos rfl, find?_eq_none.mpr (by simp)]
  · rw [if_neg hfk, show (fun a : α × Nat => decide ((!(a.1 == k)) = true ∧ (a.1 == f) = true)) = fun a => a.1 == f from
      funext fun a => by by_cases ha : a.1 = f <;> simp [ha, hfk]]

theorem cntL_map {α : Type} [BEq α] [LawfulBEq α] [DecidableEq α] (l : List (α × Nat)) (k : α) (c0 : Nat) (f : α)
    (e : α × Nat) (hf : l.find? (fun x => x.1 == k) = some e) :
    cntL (l.map (fun x => if x.1 == k then (x.1, c0 + 1) else x)) f = if f = k then c0 + 1 else cntL l f := by
  unfold cntL
  rw [find?_map, show ((fun x : α × Nat => x.1 == f) ∘ fun x => if x.1 == k then (x.1, c0 + 1) else x) =
    fun x => x.1 == f from funext fun x => by simp only [Function.comp]; split <;> rfl]
  by_cases hfk : f = k
  · subst hfk
    have he : e.1 = f := by simpa using find?_some hf
    simp [hf, he]
  · rw [if_neg hfk]
    cases hfd : l.find? (fun x => x.1 == f) with
    | none => rfl
    | some y =>
      have hy : y.1 = f := by simpa using find?_some hfd
      simp [hy, hfk]

/-- a grouping of the scenarios: the groups (keys `κ`) have a feature, scenario ids and a counter table in the
    bookkeeping; `of` is the group a notification for a scenario key is counted in -/
structure Grouping (c : SCfg) (κ : Type) [BEq κ] [LawfulBEq κ] [DecidableEq κ] where
  feat : κ → Nat
  ids : κ → List Nat
  of : ScenKey → Option κ
  tbl : Brackets → List (κ × Nat)
  /-- the Finished event owed when the last scenario of the group is counted -/
  ev : κ → Ev
  init : tbl Brackets.empty = []
  start : ∀ b batch k, cntL (tbl (startScenarios b batch).1) k = cntL (tbl b) k
  /-- a final notification counts one more scenario of its group, or closes the group at its last scenario -/
  fin : ∀ b sk b' evs,
    scenarioFinished b sk false (c.nRule sk.feat (sk.rule.getD 0)) (c.nFeat sk.feat) = some (b', evs) →
    match of sk with
    | none => tbl b' = tbl b
    | some k => ∃ e, (tbl b).find? (fun x => x.1 == k) = some e ∧
        if (ids k).length = e.2 + 1 then tbl b' = (tbl b).filter (fun x => !(x.1 == k)) ∧ ev k ∈ evs
        else tbl b' = (tbl b).map (fun x => if x.1 == k then (x.1, e.2 + 1) else x)

/-- what a well-formed catalog gives: the groups are duplicate-free sets of scenarios of their feature, and an entry of
    the scheduler is counted in the one group its scenario belongs to -/
structure Grouping.Sound {c : SCfg} {κ : Type} [BEq κ] [LawfulBEq κ] [DecidableEq κ] (G : Grouping c κ) : Prop where
  nodup : ∀ k, (G.ids k).Nodup
  known : ∀ k, ∀ x ∈ G.ids k, ∃ ft, c.feat? (G.feat k) = some ft ∧ x ∈ scenIds ft
  own : ∀ s, RInv c s → ∀ e ∈ ents s, ∀ k, e.key.scen ∈ G.ids k ↔ G.of e.key = some k

section
variable {c : SCfg} {κ : Type} [BEq κ] [LawfulBEq κ] [DecidableEq κ] (G : Grouping c κ)

/-- final (not retried) notifications of a group that wait to be drained -/
def Grouping.pend (nt : List (Nat × ScenKey × Bool × Bool)) (k : κ) : Nat :=
  nt.countP fun n => decide (G.of n.2.1 = some k) && !n.2.2.2

/-- the group whose last scenario the next drained notification counts -/
def Grouping.closes (s : SState) : Option κ :=
  match s.notifs with
  | (_, sk, _, r) :: _ =>
    if r then none else
    (G.of sk).bind fun k => ((G.tbl s.br).find? fun e => e.1 == k).bind fun e =>
      if (G.ids k).length = e.2 + 1 then some k else none
  | [] => none

/-- ghost: features whose scenarios were inserted; groups whose last scenario was counted -/
structure Gh (κ : Type) where
  insd : List Nat := []
  closed : List κ := []

def gstepG (n : NState) (g : Gh κ) : Label → Gh κ
  | .ins _ _ _ => match n.base.pendingFeat with | some f => { g with insd := f :: g.insd } | none => g
  | .notif _ _ _ => match G.closes n.base with | some k => { g with closed := k :: g.closed } | none => g
  | _ => g

/-- the books of one group: of its `n` scenarios `cnt` are counted as finished, `lv` are waiting or in flight and `pd`
    final notifications wait to be drained; `ins`: its scenarios were inserted, `cl`: the last one was counted -/
structure Bal (ins cl : Prop) (n cnt lv pd : Nat) : Prop where
  closed : cl → ins ∧ lv = 0 ∧ pd = 0
  count : ins → ¬cl → cnt + lv + pd = n
  fresh : ¬ins → cnt = 0 ∧ pd = 0 ∧ lv = 0

theorem Bal.inserted {ins cl : Prop} {n cnt lv pd : Nat} (h : Bal ins cl n cnt lv pd) (hi : ¬ins) :
    Bal True cl n cnt n pd :=
  ⟨fun hc => absurd (h.closed hc).1 hi, fun _ _ => by have := h.fresh hi; omega, fun hn => absurd trivial hn⟩

theorem Bal.ended {ins cl : Prop} {n cnt lv pd : Nat} (h : Bal ins cl n cnt (lv + 1) pd) : Bal ins cl n cnt lv (pd + 1) :=
  ⟨fun hc => by have := h.closed hc; omega, fun hi hc => by have := h.count hi hc; omega,
    fun hi => by have := h.fresh hi; omega⟩

theorem Bal.drained {ins cl : Prop} {n cnt lv pd : Nat} (h : Bal ins cl n cnt lv (1 + pd)) : Bal ins cl n (cnt + 1) lv pd :=
  ⟨fun hc => by have := h.closed hc; omega, fun hi hc => by have := h.count hi hc; omega,
    fun hi => by have := h.fresh hi; omega⟩

theorem Bal.last {ins cl cl' : Prop} [Decidable ins] {n cnt lv pd : Nat} (h : Bal ins cl n cnt lv (1 + pd))
    (hn : n = cnt + 1) (hcl : cl') : Bal ins cl' n 0 lv pd := by
  have hi : ins := Decidable.by_contra fun hi => by have := h.fresh hi; omega
  have := h.count hi fun hc => by have := h.closed hc; omega
  exact ⟨fun _ => ⟨hi, by omega, by omega⟩, fun _ hc => absurd hcl hc, fun hni => absurd hi hni⟩

/-- the counting invariant, over the waiting scenarios `Q`, those in flight `R`, the bookkeeping and the notifications
    not yet drained: the books of every group balance -/
def Cnt (Q R : List Nat) (br : Brackets) (nt : List (Nat × ScenKey × Bool × Bool)) (g : Gh κ) : Prop :=
  ∀ k, Bal (G.feat k ∈ g.insd) (k ∈ g.closed) (G.ids k).length (cntL (G.tbl br) k) (live Q R (G.ids k)) (G.pend nt k)

def FInv (n : NState) (g : Gh κ) : Prop :=
  Cnt G (Qs n.base) (Rs n.base) n.base.br n.base.notifs g ∧ ∀ f ∈ g.insd, Settled n.delivered n.base.pendingFeat f

theorem finv_init : FInv G {} {} :=
  ⟨fun k => ⟨nofun, nofun,
    fun _ => ⟨by simp [G.init, cntL], rfl, live_zero.mpr (by simp [Qs, Rs, scens, Queues.empty])⟩⟩, nofun⟩

variable {G} {Q Q' R R' : List Nat} {br br' : Brackets} {nt nt' : List (Nat × ScenKey × Bool × Bool)} {g : Gh κ}

theorem Cnt.congr (h : Cnt G Q R br nt g) (hl : ∀ x, (x ∈ Q' ∨ x ∈ R') ↔ (x ∈ Q ∨ x ∈ R))
    (hc : ∀ k, cntL (G.tbl br') k = cntL (G.tbl br) k) (hp : ∀ k, G.pend nt' k = G.pend nt k) :
    Cnt G Q' R' br' nt' g := fun k => by
  rw [hc, hp, live_congr fun x _ => hl x]
  exact h k

theorem scenIds_feat? (c : SCfg) (hwf : WF c) (f f' : Nat) (ft ft' : SFeat) (h : c.feat? f = some ft) (h' : c.feat? f' = some ft')
    (x : Nat) (hx : x ∈ scenIds ft) (hx' : x ∈ scenIds ft') : f = f' := by
  obtain ⟨m, i⟩ := feat?_spec c f ft h
  obtain ⟨m', i'⟩ := feat?_spec c f' ft' h'
  rw [← i, ← i']
  exact hwf.disj ft m ft' m' x hx hx'

theorem Cnt.inserted (hwf : WF c) (hG : G.Sound) (h : Cnt G Q R br nt g) (f : Nat) (hf : f ∉ g.insd)
    (hQ : ∀ x, x ∈ Q' ↔ x ∈ Q ∨ x ∈ scenIds ((c.feat? f).getD ⟨f, [], [], []⟩)) :
    Cnt G Q' R br nt { g with insd := f :: g.insd } := fun k => by
  show Bal (G.feat k ∈ f :: g.insd) (k ∈ g.closed) _ _ _ _
  by_cases hne : G.feat k = f
  · -- the scenarios of a group of `f` are all waiting now
    have hall : live Q' R (G.ids k) = (G.ids k).length := live_all fun x hx => by
      obtain ⟨ft, hft, hxf⟩ := hG.known k x hx
      rw [hne] at hft
      exact Or.inl ((hQ x).mpr (Or.inr (by rw [hft]; exact hxf)))
    rw [hall]
    simpa only [mem_cons, hne, true_or] using (h k).inserted (hne ▸ hf)
  · have hother : live Q' R (G.ids k) = live Q R (G.ids k) := by
      refine live_congr fun x hx => ?_
      rw [hQ]
      refine ⟨fun hh => hh.elim (fun hh => hh.elim Or.inl fun ha => ?_) Or.inr, fun hh => hh.imp_left Or.inl⟩
      obtain ⟨ft, hft, hxf⟩ := hG.known k x hx
      obtain ⟨ft0, hfd, ha⟩ := mem_pending ha
      exact absurd (scenIds_feat? c hwf _ _ ft ft0 hft hfd x hxf ha) hne
    rw [hother]
    simpa only [mem_cons, hne, false_or] using h k

theorem pend_one (a : Nat × ScenKey × Bool × Bool) (k : κ) :
    G.pend [a] k = if G.of a.2.1 = some k ∧ a.2.2.2 = false then 1 else 0 := by
  simp only [Grouping.pend, countP_cons, countP_nil, Nat.zero_add]
  cases a.2.2.2 <;> simp

theorem pend_append (nt nt' : List (Nat × ScenKey × Bool × Bool)) (k : κ) :
    G.pend (nt ++ nt') k = G.pend nt k + G.pend nt' k := countP_append

theorem pend_cons (a : Nat × ScenKey × Bool × Bool) (nt : List (Nat × ScenKey × Bool × Bool)) (k : κ) :
    G.pend (a :: nt) k = G.pend [a] k + G.pend nt k := pend_append [a] nt k

theorem Cnt.ended (hG : G.Sound) (h : Cnt G Q R br nt g) (x id : Nat) (sk : ScenKey) (failed : Bool)
    (hR : R ~ x :: R') (hnd : R.Nodup) (hxQ : x ∉ Q) (hown : ∀ k, x ∈ G.ids k ↔ G.of sk = some k) :
    Cnt G Q R' br (nt ++ [(id, sk, failed, false)]) g := fun k => by
  obtain ⟨hxR', -⟩ := nodup_cons.mp (hR.nodup_iff.mp hnd)
  have hxR : x ∈ R := hR.mem_iff.mpr mem_cons_self
  have hne : ∀ y, y ≠ x → ((y ∈ Q ∨ y ∈ R') ↔ (y ∈ Q ∨ y ∈ R)) := fun y hy => by
    rw [hR.mem_iff, mem_cons, or_iff_right hy]
  have hk0 := h k
  rw [pend_append, pend_one]
  by_cases hk : G.of sk = some k
  · -- the group of `x` loses a live scenario and gains a final notification
    have hflip : live Q R' (G.ids k) + 1 = live Q R (G.ids k) :=
      countP_flip _ (hG.nodup k) _ _ x ((hown k).mpr hk) (by simpa using Or.inr hxR) (by simpa using ⟨hxQ, hxR'⟩)
        fun y _ hy => by simp only [hne y hy]
    rw [← hflip] at hk0
    rw [if_pos (And.intro hk rfl)]
    exact hk0.ended
  · rw [if_neg fun hh => hk hh.1, Nat.add_zero, live_congr fun y hy => hne y fun he => hk ((hown k).mp (he ▸ hy))]
    exact hk0

theorem Cnt.drained {s : SState} {id : Nat} {sk : ScenKey} {failed : Bool} {br' : Brackets} {evs : List Ev}
    (h : Cnt G Q R s.br s.notifs g) (hnt : s.notifs = (id, sk, failed, false) :: nt)
    (hsf : scenarioFinished s.br sk false (c.nRule sk.feat (sk.rule.getD 0)) (c.nFeat sk.feat) = some (br', evs)) :
    Cnt G Q R br' nt (match G.closes s with | some k => { g with closed := k :: g.closed } | none => g) := by
  have hfin := G.fin _ _ _ _ hsf
  rw [hnt] at h
  simp only [Grouping.closes, hnt, Bool.false_eq_true, if_false]
  cases hof : G.of sk with
  | none =>
    rw [hof] at hfin
    exact h.congr (fun _ => Iff.rfl) (fun k => by rw [hfin]) (fun k => by rw [pend_cons, pend_one]; simp [hof])
  | some k0 =>
    rw [hof] at hfin
    obtain ⟨e, hfd, hh⟩ := hfin
    simp only [hfd, Option.bind_some]
    have h0 := h k0
    rw [pend_cons, pend_one, if_pos (And.intro hof rfl), show cntL (G.tbl s.br) k0 = e.2 by simp [cntL, hfd]] at h0
    have hpo : ∀ k, k ≠ k0 → G.pend ((id, sk, failed, false) :: nt) k = G.pend nt k := fun k hk => by
      rw [pend_cons, pend_one]; simp [hof, Ne.symm hk]
    split at hh
    · -- the last scenario of `k0`: its entry leaves the table, nothing of it is live or waiting to be drained
      rename_i hlen
      rw [if_pos hlen]
      intro k
      show Bal (G.feat k ∈ g.insd) (k ∈ k0 :: g.closed) _ _ _ _
      rw [hh.1, cntL_filter]
      by_cases hk : k = k0
      · subst hk
        rw [if_pos rfl]
        exact h0.last hlen mem_cons_self
      · rw [if_neg hk, ← hpo k hk]
        simpa only [mem_cons, hk, false_or] using h k
    · rename_i hlen
      rw [if_neg hlen]
      intro k
      rw [hh, cntL_map _ _ _ _ e hfd]
      by_cases hk : k = k0
      · subst hk
        rw [if_pos rfl]
        exact h0.drained
      · rw [if_neg hk, ← hpo k hk]
        exact h k

end

theorem scenFin_retried (b : Brackets) (k : ScenKey) (nR nF : Nat) : scenarioFinished b k true nR nF = some (b, []) := by
  simp [scenarioFinished]

section
open Cuke.SchedStep Cuke.SchedExit
variable {c : SCfg} {κ : Type} [BEq κ] [LawfulBEq κ] [DecidableEq κ] (G : Grouping c κ)

theorem notif_clean {s : SState} {id : Nat} {failed retried : Bool} (hf : fails c s (.notif id failed retried) = []) :
    ∃ k rest br' evs, s.notifs = (id, k, failed, retried) :: rest ∧
      scenarioFinished s.br k retried (c.nRule k.feat (k.rule.getD 0)) (c.nFeat k.feat) = some (br', evs) ∧
      notifFin c s retried = some (br', evs) := by
  rcases hn : s.notifs with _ | ⟨⟨nid, k, f, r⟩, rest⟩
  · simp [fails, hn] at hf
  · simp only [fails, hn, append_eq_nil_iff, miss_eq_nil, Bool.and_eq_true, beq_iff_eq, Option.isSome_iff_exists] at hf
    obtain ⟨-, ⟨⟨⟨⟨rfl, rfl⟩, rfl⟩, -⟩, -⟩, ⟨br', evs⟩, hsf⟩ := hf
    exact ⟨k, rest, br', evs, rfl, hsf, by simp [notifFin, hn, hsf]⟩

theorem closes_owes (s : SState) (id : Nat) (failed retried : Bool) (k : κ) (hcl : G.closes s = some k)
    (hc : Clean0 (stepL c s (.notif id failed retried)) = true) :
    Exp.one (G.ev k) ∈ (stepL c s (.notif id failed retried)).expect := by
  obtain ⟨-, hf, e⟩ := clean_step (by simpa [Clean0] using hc)
  obtain ⟨sk, rest, br', evs, hnt, hsf, hfin⟩ := notif_clean hf
  rw [e]
  simp only [stepD, hnt, hfin, isEmpty_cons, Bool.false_eq_true, if_false, Option.elim_some, mem_map]
  refine ⟨G.ev k, ?_, rfl⟩
  simp only [Grouping.closes, hnt] at hcl
  cases retried
  · have := G.fin _ _ _ _ hsf
    cases hof : G.of sk with
    | none => simp [hof] at hcl
    | some k0 =>
      rw [hof] at this
      obtain ⟨e0, hfd, hh⟩ := this
      simp only [hof, hfd, Bool.false_eq_true, if_false, Option.bind_some] at hcl
      split at hcl
      · rename_i hlen
        rw [if_pos hlen] at hh
        exact Option.some.inj hcl ▸ hh.2
      · cases hcl
  · simp at hcl

/-- the invariant is claimed only until `execute` takes its exit: `finish_all_rules_and_features` then empties the
    bookkeeping it counts in -/
theorem step_tinv (hwf : WF c) (hG : G.Sound) (n : NState) (g : Gh κ) (l : Label) (hl : LInv c n) (hr : RInv c n.base)
    (h : Exiting n.base ∨ FInv G n g) (hc : NClean (stepN c n l) = true) :
    Exiting (stepN c n l).base ∨ FInv G (stepN c n l) (gstepG G n g l) := by
  obtain ⟨hn, gc, hci⟩ := hl
  have hd : (stepL c n.base l).dis = [] := stepN_base c n l ▸ nclean_base hc
  have hc0 : Clean0 (stepL c n.base l) = true := by simp [Clean0, hd]
  rcases h with hex | ⟨h, hset⟩
  · exact Or.inl (stepN_base c n l ▸ (exiting_step c n.base l hex hc0).1)
  by_cases hid : ∃ sl, l = .idle true sl
  · obtain ⟨sl, rfl⟩ := hid
    exact Or.inl (stepN_base c n _ ▸ idle_true_exiting c n.base sl (clean0_all _ hc0).1)
  obtain ⟨-, hf, hk, e⟩ := nclean_step hc
  refine Or.inr ⟨?_, fun f hfi => ?_⟩
  · rw [e]
    simp only [NInv, Qs, Rs] at h hn ⊢
    cases l
    all_goals simp only [stepND, stepD, gstepG]
    case ins t ps pc =>
      have hQ := waiting_perm (insAdds c n.base ps pc) hci hd rfl rfl
      simp only [Qs, stepD] at hQ
      rcases ins_clean hf with ⟨f, hpf, -, hadds⟩ | ⟨hpf, e0, hmem, -, -, -, hadds⟩
      · simp only [hpf]
        refine h.inserted hwf hG f (fun hi => (hset f hi).2 hpf) fun x => ?_
        rw [hQ.mem_iff, mem_append, hadds]
      · simp only [hpf]
        refine h.congr (fun x => ?_) (fun _ => rfl) (fun _ => rfl)
        rw [hQ.mem_iff, mem_append, hadds, mem_singleton]
        exact ⟨fun hh => hh.elim (fun hh => hh.elim Or.inl fun he => Or.inr (he ▸ mem_map_of_mem hmem)) Or.inr,
          fun hh => hh.imp_left Or.inl⟩
    case get2 t sl got b r =>
      have hQ := waiting_perm [] hci hd (by simp [gstep]) rfl
      simp only [Qs, stepD, append_nil] at hQ
      exact h.congr (fun x => by rw [hQ.mem_iff]) (G.start _ _) (fun _ => rfl)
    case disp k sl =>
      refine h.congr (fun x => ?_) (fun _ => rfl) (fun _ => rfl)
      simp only [scens_append, append_nil, mem_append]
      exact or_assoc.symm.trans or_right_comm
    case endA id failed retried t =>
      cases hfd : n.base.running.find? (fun e => e.id == id) with
      | none => simp [fails, hfd] at hf
      | some e0 =>
        have hmem : e0 ∈ n.base.running := mem_of_find?_eq_some hfd
        have hxR : e0.key.scen ∈ scens n.base.running := mem_map_of_mem hmem
        have hperm : scens n.base.running ~ e0.key.scen :: scens (n.base.running.eraseP fun e => e.id == id) :=
          scens_perm _ _ (perm_eraseP_of_find _ _ _ hfd)
        have hret : retried = n.reins.contains e0.key.scen := by simpa [okN, hfd] using hk
        simp only [Option.elim_some]
        cases retried
        · -- the last attempt of the scenario: no successor is waiting
          have hxnre : e0.key.scen ∉ n.reins := by simpa using hret.symm
          refine h.ended hG _ id e0.key failed hperm hn.rnd (fun hq => hxnre (hn.both _ hq hxR)) fun k => ?_
          exact hG.own n.base hr e0 (by simp [ents, hmem]) k
        · -- the successor is waiting: the scenario stays live, nothing is counted
          have hxQ := hn.reinsQ _ (by simpa using hret.symm)
          refine h.congr (fun x => ?_) (fun _ => rfl) (fun k => by simp [pend_append, pend_one])
          by_cases hx : x = e0.key.scen
          · exact ⟨fun _ => Or.inl (hx ▸ hxQ), fun _ => Or.inl (hx ▸ hxQ)⟩
          · rw [hperm.mem_iff, mem_cons, or_iff_right hx]
    case notif id failed retried =>
      obtain ⟨sk, rest, br', evs, hnt, hsf, hfin⟩ := notif_clean hf
      simp only [hnt, hfin, Option.map_some, Option.getD_some, tail_cons]
      cases retried
      · exact h.drained hnt hsf
      · rw [scenFin_retried] at hsf
        rw [hnt] at h
        simp only [Grouping.closes, hnt, if_true]
        exact h.congr (fun _ => Iff.rfl) (fun k => by rw [← (Prod.mk.inj (Option.some.inj hsf)).1])
          (fun k => by rw [pend_cons, pend_one]; simp)
    case idle fin sleep =>
      cases fin
      · simpa using h
      · exact absurd ⟨sleep, rfl⟩ hid
    all_goals exact h
  · -- the inserted features stay settled; the feature inserted by this label settles
    by_cases hi : f ∈ g.insd
    · exact settled_step hc (hset f hi)
    · cases l
      case ins t ps pc =>
        simp only [gstepG] at hfi
        rw [e]
        simp only [stepND, stepD]
        cases hpf : n.base.pendingFeat with
        | none => exact absurd (by simpa [hpf] using hfi) hi
        | some f' =>
          simp only [hpf, mem_cons] at hfi
          exact ⟨hfi.resolve_right hi ▸ hn.pend f' hpf, nofun⟩
      case notif => exact absurd (by simp only [gstepG] at hfi; split at hfi <;> exact hfi) hi
      all_goals exact absurd hfi hi

def ghost (ls : List Label) : Gh κ := (ls.foldl (fun nx l => (stepN c nx.1 l, gstepG G nx.1 nx.2 l)) ({}, {})).2

theorem acc_inv (hwf : WF c) (hG : G.Sound) (ls : List Label) (hc : NClean (acceptN c ls) = true) :
    LInv c (acceptN c ls) ∧ RInv c (acceptN c ls).base ∧
      (Exiting (acceptN c ls).base ∨ FInv G (acceptN c ls) (ghost G ls)) :=
  acceptN_inv c hwf (gstepG G) (fun n g => RInv c n.base ∧ (Exiting n.base ∨ FInv G n g))
    (fun n g l hl h hc => ⟨stepN_base c n l ▸ step_rinv c n.base l h.1
        (clean_good _ (clean0_all _ (by simp [Clean0, ← stepN_base, nclean_base hc])).2.2).2,
      step_tinv G hwf hG n g l hl h.1 h.2 hc⟩)
    {} ⟨rinv_init c, Or.inr (finv_init G)⟩ ls hc

theorem closes_recorded (pre post : List Label) (id : Nat) (failed retried : Bool) (k : κ)
    (hcl : G.closes (acceptN c pre).base = some k) : k ∈ (ghost G (pre ++ .notif id failed retried :: post)).closed := by
  have mono : ∀ (ls : List Label) (nx : NState × Gh κ), k ∈ nx.2.closed →
      k ∈ (ls.foldl (fun nx l => (stepN c nx.1 l, gstepG G nx.1 nx.2 l)) nx).2.closed := by
    intro ls
    induction ls with
    | nil => exact fun _ h => h
    | cons l rest ih =>
      refine fun nx h => ih _ ?_
      cases l
      case ins => simp only [gstepG]; split <;> exact h
      case notif => simp only [gstepG]; split; exact mem_cons_of_mem _ h; exact h
      all_goals exact h
  simp only [ghost, foldl_append, foldl_cons]
  refine mono post _ ?_
  unfold acceptN at hcl
  rw [foldl_ghost_fst]
  simp only [gstepG, hcl]
  exact mem_cons_self

/-- **the Finished event of a group comes after the last attempt of its scenarios**: at the notification that counts
    the last scenario of group `k`, and at every later moment of a run that is clean in both layers, no attempt counted
    in `k` is in flight -/
theorem closed_not_running (hwf : WF c) (hG : G.Sound) (pre post : List Label) (id : Nat) (failed retried : Bool) (k : κ)
    (hcl : G.closes (acceptN c pre).base = some k)
    (hc : NClean (acceptN c (pre ++ .notif id failed retried :: post)) = true) :
    ∀ e ∈ (acceptN c (pre ++ .notif id failed retried :: post)).base.running, G.of e.key ≠ some k := by
  obtain ⟨-, hr, hti⟩ := acc_inv G hwf hG _ hc
  intro e he hek
  rcases hti with hex | hfi
  · rw [hex.2.1] at he; cases he
  · refine live_zero.mp ((hfi.1 k).closed (closes_recorded G pre post id failed retried k hcl)).2.1 e.key.scen ?_
      (Or.inr (mem_map_of_mem he))
    exact (hG.own _ hr e (by simp [ents, he]) k).mpr hek

/-- … hence no event of a scenario counted in `k` is sent after that notification -/
theorem closed_no_event (hwf : WF c) (hG : G.Sound) (pre p1 p2 : List Label) (id : Nat) (failed retried : Bool) (k : κ)
    (sk : ScenKey) (ret : Option Retries) (se : ScenEv) (hcl : G.closes (acceptN c pre).base = some k)
    (hc : NClean (acceptN c (pre ++ .notif id failed retried :: (p1 ++ .tx (.scen sk ret se) :: p2))) = true) :
    G.of sk ≠ some k := by
  rw [show pre ++ .notif id failed retried :: (p1 ++ .tx (.scen sk ret se) :: p2) =
    (pre ++ .notif id failed retried :: p1) ++ .tx (.scen sk ret se) :: p2 by simp,
    acceptN, foldl_append, foldl_cons] at hc
  have h1 := nclean_foldl_mono c p2 _ hc
  have hd := nclean_base h1
  rw [stepN_base] at hd
  obtain ⟨e, he, hk, -⟩ := tx_scen_clean (clean0_iff.mpr hd)
  exact hk ▸ closed_not_running G hwf hG pre p1 id failed retried k hcl (nclean_step_mono c _ _ h1) e he

end

theorem origin (c : SCfg) (hwf : WF c) (s : SState) (hr : RInv c s) (e : Entry) (he : e ∈ ents s) :
    ∃ ft ∈ c.feats, c.feat? e.key.feat = some ft ∧
      ∃ rs ∈ featScenarios ft, e.key = ⟨ft.id, rs.1.map (·.id), rs.2.id⟩ := by
  obtain ⟨e0, ⟨ft0, hft0, hmem⟩, hk, -, -⟩ := hr e he
  simp only [newEntries, mem_map] at hmem
  obtain ⟨rs, hrs, rfl⟩ := hmem
  refine ⟨ft0, hft0, ?_, rs, hrs, hk⟩
  rw [hk]
  cases hfd : c.feat? ft0.id with
  | none =>
    unfold SCfg.feat? at hfd
    exact absurd (beq_self_eq_true _) (find?_eq_none.mp hfd ft0 hft0)
  | some ft1 =>
    obtain ⟨hm1, hid1⟩ := feat?_spec c _ ft1 hfd
    rw [hwf.ids ft1 hm1 ft0 hft0 hid1]

theorem owner (c : SCfg) (hwf : WF c) (s : SState) (hr : RInv c s) (e : Entry) (he : e ∈ ents s) :
    ∃ ft, c.feat? e.key.feat = some ft ∧ e.key.scen ∈ scenIds ft := by
  obtain ⟨ft, -, hft, rs, hrs, hk⟩ := origin c hwf s hr e he
  exact ⟨ft, hft, by rw [hk]; exact mem_map_of_mem hrs⟩

def featIds (c : SCfg) (f : Nat) : List Nat := ((c.feat? f).map scenIds).getD []

theorem mem_featIds {c : SCfg} {f x : Nat} : x ∈ featIds c f ↔ ∃ ft, c.feat? f = some ft ∧ x ∈ scenIds ft := by
  unfold featIds
  cases c.feat? f <;> simp

theorem scenIds_length (ft : SFeat) : (scenIds ft).length = ft.countScenarios := by
  simp [scenIds, featScenarios, SFeat.countScenarios, length_flatMap, Function.comp_def]

theorem nFeat_eq (c : SCfg) (f : Nat) : c.nFeat f = (featIds c f).length := by
  unfold SCfg.nFeat featIds
  cases c.feat? f <;> simp [scenIds_length]

/-- the features as a grouping: every scenario is counted for its feature -/
def featG (c : SCfg) : Grouping c Nat where
  feat := id
  ids := featIds c
  of := fun sk => some sk.feat
  tbl := fun b => b.feats
  ev := Ev.featFinished
  init := rfl
  start := fun b batch f => cntL_startFold f _ _
  fin := fun b sk b' evs h => by
    simpa only [← nFeat_eq] using (BrL.scenarioFinished_spec h).1

theorem featG_sound (c : SCfg) (hwf : WF c) : (featG c).Sound where
  nodup := fun f => by
    show (featIds c f).Nodup
    unfold featIds
    cases hfd : c.feat? f with
    | none => simp
    | some ft => exact hwf.nodup ft (feat?_spec c f ft hfd).1
  known := fun f x hx => mem_featIds.mp hx
  own := fun s hr e he f => by
    obtain ⟨ft, hft, hx⟩ := owner c hwf s hr e he
    show e.key.scen ∈ featIds c f ↔ some e.key.feat = some f
    refine ⟨fun hxf => ?_, fun hf => ?_⟩
    · obtain ⟨ft', hfd, hx'⟩ := mem_featIds.mp hxf
      rw [scenIds_feat? c hwf _ _ ft ft' hft hfd _ hx hx']
    · rw [← Option.some.inj hf]
      exact mem_featIds.mpr ⟨ft, hft, hx⟩

theorem closes_eq (c : SCfg) (s : SState) : (featG c).closes s = closes c s := by
  unfold Grouping.closes closes
  split
  · split
    · rfl
    · simp only [featG, Option.bind_some, ← nFeat_eq]
      cases find? (fun e => e.1 == _) s.br.feats <;> simp
  · rfl

/-- the notification that counts the last scenario of `f` makes the model owe `Feature::Finished` for `f` -/
theorem closes_owes_finished (c : SCfg) (s : SState) (id : Nat) (failed retried : Bool) (f : Nat)
    (hcl : closes c s = some f) (hc : Clean0 (stepL c s (.notif id failed retried)) = true) :
    Exp.one (Ev.featFinished f) ∈ (stepL c s (.notif id failed retried)).expect :=
  closes_owes (featG c) s id failed retried f (closes_eq c s ▸ hcl) hc

end Cuke.SchedFin
