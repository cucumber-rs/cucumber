import Cuke.Lemmas.NormalizeOrder
import Cuke.Model.Monitors
/-!
  T2 for the Normalize model (C11): the forwarded stream is SEQUENTIAL — accepted by the strict automaton
  `Cuke.Mon.seqStep` (one feature open at a time, one rule or top-level attempt inside it, one attempt inside
  a rule, brackets nested).

  Idea: the automaton state after everything forwarded so far is a function of the queue (`featsSt`): which
  brackets of the HEAD entries have been emitted is recorded by the `initial` flags, and whether the head
  attempt's `Started` has been emitted is visible from its buffer (a buffer that has never been emitted from
  starts with `Started`). Insertion does not change `featsSt` (`insert_seq`); emission runs the automaton from
  `featsSt` before to `featsSt` after (`emitFeats_seq`).

  On the same reading of the queue: an already sequential stream passes through event by event
  (`passthrough_from`), and an event of the attempt that is open at the head of the output is forwarded by the
  call that receives it (`head_event_forwarded`).
-/
namespace Cuke.NormL
open Cuke List Cuke.Mon

def seqRun (s : SeqSt) (evs : List Ev) : Option SeqSt := evs.foldl (fun (o : Option SeqSt) e => o.bind (fun s => seqStep s e)) (some s)

theorem seqRun_nil (s : SeqSt) : seqRun s [] = some s := rfl

theorem seqRun_none (evs : List Ev) : evs.foldl (fun (o : Option SeqSt) e => o.bind (fun s => seqStep s e)) none = none := by
  induction evs with
  | nil => rfl
  | cons e es ih => simpa using ih

theorem seqRun_cons (s : SeqSt) (e : Ev) (es : List Ev) :
    seqRun s (e :: es) = (seqStep s e).bind (fun s' => seqRun s' es) := by
  simp only [seqRun, foldl_cons, Option.bind_some]
  cases h : seqStep s e with
  | none => simp [seqRun_none]
  | some s' => simp

theorem seqRun_append (s : SeqSt) (a b : List Ev) :
    seqRun s (a ++ b) = (seqRun s a).bind (fun s' => seqRun s' b) := by
  induction a generalizing s with
  | nil => simp [seqRun_nil]
  | cons e es ih =>
    rw [cons_append, seqRun_cons, seqRun_cons]
    cases h : seqStep s e with
    | none => simp
    | some s' => simp [ih]

theorem seqOk_iff (evs : List Ev) : seqOk evs = (seqRun {} evs).isSome := rfl

/-- nothing of the attempt has been emitted -/
def attFresh (a : AttQ) : Bool :=
  a.evs.head? == some .started && a.evs.tail.all (fun e => e != .started)

/-- the attempt's `Started` has been emitted -/
def attPartial (a : AttQ) : Bool := a.evs.all (fun e => e != .started)

def attKey (f : Nat) (r : Option Nat) (a : AttQ) : ScenKey × Option Retries := (⟨f, r, a.scen⟩, a.ret)

def inAtt (f : Nat) (r : Option Nat) (att : Option (ScenKey × Option Retries)) : SeqSt :=
  { feat := some f, rule := r, att := att, finished := false }

theorem seqStep_mid (s : SeqSt) (k : ScenKey) (ret : Option Retries) (se : ScenEv) (h1 : se ≠ .started)
    (h2 : se ≠ .finished) :
    seqStep s (.scen k ret se) =
      if s.finished then none
      else if s.feat == some k.feat && s.rule == k.rule then (if s.att == some (k, ret) then some s else none) else none := by
  cases se with
  | started => exact absurd rfl h1
  | finished => exact absurd rfl h2
  | _ => rfl

theorem seqStep_runLevel (s : SeqSt) (e : Ev) (hr : e.isRunLevel = true) (hf : s.finished = false) :
    seqStep s e = some s := by
  cases e <;> simp_all [Ev.isRunLevel, seqStep]

theorem seqRun_open (f : Nat) (r : Option Nat) (a : AttQ) (evs : List ScenEv)
    (hc : evs.dropLast.all (fun e => e != .finished) = true) (hp : evs.all (fun e => e != .started) = true) :
    seqRun (inAtt f r (some (attKey f r a))) (wrapAtt f r a evs) =
      some (inAtt f r (if evs.getLast? == some .finished then none else some (attKey f r a))) := by
  induction evs with
  | nil => rfl
  | cons e rest ih =>
    simp only [all_cons, Bool.and_eq_true, bne_iff_ne, ne_eq] at hp
    simp only [wrapAtt, map_cons]
    rw [seqRun_cons]
    cases rest with
    | nil =>
      by_cases he : e = .finished
      · subst he
        simp [seqStep, inAtt, attKey, seqRun_nil]
      · rw [seqStep_mid _ _ _ _ hp.1 he]
        simp [inAtt, attKey, seqRun_nil, he]
    | cons e2 rest2 =>
      simp only [dropLast_cons_cons, all_cons, Bool.and_eq_true, bne_iff_ne, ne_eq] at hc
      rw [seqStep_mid _ _ _ _ hp.1 hc.1]
      have := ih (by simpa using hc.2) hp.2
      simpa [inAtt, attKey, wrapAtt, getLast?_cons_cons] using this

theorem seqRun_att (f : Nat) (r : Option Nat) (a : AttQ) (hc : attClean a = true)
    (h : (attFresh a = true) ∨ (attPartial a = true)) :
    seqRun (inAtt f r (if attFresh a then none else some (attKey f r a))) (wrapAtt f r a a.evs) =
      some (inAtt f r (if attComplete a then none else some (attKey f r a))) := by
  simp only [attClean] at hc
  rcases h with hf | hp
  · -- fresh: `Started` opens the attempt
    simp only [hf, if_true]
    simp only [attFresh, Bool.and_eq_true, beq_iff_eq] at hf
    cases hevs : a.evs with
    | nil => simp [hevs] at hf
    | cons e0 rest =>
      rw [hevs] at hf hc
      simp only [head?_cons, Option.some.injEq, tail_cons] at hf
      obtain ⟨rfl, hrest⟩ := hf
      simp only [wrapAtt, map_cons]
      rw [seqRun_cons]
      have hst : seqStep (inAtt f r none) (Ev.scen ⟨f, r, a.scen⟩ a.ret .started) = some (inAtt f r (some (attKey f r a))) := by
        simp [seqStep, inAtt, attKey]
      rw [hst]
      cases rest with
      | nil => simp [attComplete, hevs, seqRun_nil]
      | cons e1 r1 =>
        have := seqRun_open f r a (e1 :: r1) (by simpa [dropLast_cons_cons] using hc) hrest
        simpa [wrapAtt, attComplete, hevs, getLast?_cons_cons] using this
  · have hnf : attFresh a = false := by
      simp only [attFresh, Bool.and_eq_false_iff]
      left
      simp only [attPartial, all_eq_true, bne_iff_ne, ne_eq] at hp
      cases hevs : a.evs with
      | nil => simp
      | cons e0 rest => simpa using hp e0 (by simp [hevs])
    simp only [hnf, Bool.false_eq_true, if_false]
    exact seqRun_open f r a a.evs hc hp

/-- which attempt is open, as visible from the queue -/
def attsSt (f : Nat) (r : Option Nat) : List AttQ → Option (ScenKey × Option Retries)
  | [] => none
  | a :: _ => if attFresh a then none else some (attKey f r a)

/-- only the head attempt may have been emitted from -/
def attsWF : List AttQ → Bool
  | [] => true
  | a :: rest => (attFresh a || attPartial a) && rest.all attFresh

theorem attsSt_fresh (f : Nat) (r : Option Nat) (atts : List AttQ) (h : atts.all attFresh = true) : attsSt f r atts = none := by
  cases atts with
  | nil => rfl
  | cons a rest => simp only [all_cons, Bool.and_eq_true] at h; simp [attsSt, h.1]

theorem attsWF_fresh (atts : List AttQ) (h : atts.all attFresh = true) : attsWF atts = true := by
  cases atts with
  | nil => rfl
  | cons a rest => simp only [all_cons, Bool.and_eq_true] at h; simp [attsWF, h.1, h.2]

theorem emitAtts_seq (f : Nat) (r : Option Nat) (atts : List AttQ) (hc : atts.all attClean = true) (hw : attsWF atts = true) :
    seqRun (inAtt f r (attsSt f r atts)) (emitAtts f r atts).1 = some (inAtt f r (attsSt f r (emitAtts f r atts).2)) ∧
    attsWF (emitAtts f r atts).2 = true := by
  induction atts with
  | nil => simp [emitAtts, seqRun_nil, attsWF]
  | cons a rest ih =>
    simp only [all_cons, Bool.and_eq_true] at hc
    simp only [attsWF, Bool.and_eq_true, Bool.or_eq_true] at hw
    have hatt := seqRun_att f r a hc.1 hw.1
    simp only [emitAtts, emitAtt_done a hc.1, (emitAtt_clean a.evs hc.1).1, attsSt]
    cases hcomp : attComplete a with
    | true =>
      rw [hcomp] at hatt
      simp only [if_true, seqRun_append, hatt, Option.bind_some]
      have := ih hc.2 (attsWF_fresh rest hw.2)
      rwa [attsSt_fresh f r rest hw.2] at this
    | false =>
      rw [hcomp] at hatt
      simp only [Bool.false_eq_true, if_false, hatt]
      simp [attFresh, attsWF, attPartial, attKey, hw.2]

/-- automaton state inside feature `f` as a function of a rule queue at the head of the items -/
def ruleSt (f r : Nat) (q : RuleQ) : SeqSt :=
  if q.initial then inAtt f none none else inAtt f (some r) (attsSt f (some r) q.atts)

def ruleWF (q : RuleQ) : Bool := if q.initial then q.atts.all attFresh else attsWF q.atts

def ruleFresh (q : RuleQ) : Bool := q.initial && q.atts.all attFresh

theorem emitRule_seq (f r : Nat) (q : RuleQ) (hok : ruleOk q = true) (hw : ruleWF q = true) :
    seqRun (ruleSt f r q) (emitRule f r q).1 =
      some (if (emitRule f r q).2.1 then inAtt f none none else ruleSt f r (emitRule f r q).2.2) ∧
    ruleWF (emitRule f r q).2.2 = true := by
  simp only [ruleOk, Bool.and_eq_true, Bool.or_eq_true] at hok
  have hw' : attsWF q.atts = true := by
    simp only [ruleWF] at hw
    split at hw
    · exact attsWF_fresh _ hw
    · exact hw
  obtain ⟨hs, hwf⟩ := emitAtts_seq f (some r) q.atts hok.1 hw'
  obtain ⟨_, _, e3⟩ := emitAtts_eq f (some r) q.atts hok.1
  -- the opening bracket (if still owed) leads into the rule
  have hpre : seqRun (ruleSt f r q) (if q.initial then [Ev.ruleStarted f r] else []) =
      some (inAtt f (some r) (attsSt f (some r) q.atts)) := by
    simp only [ruleSt]
    by_cases hi : q.initial = true
    · simp only [hi, if_true, ruleWF] at hw ⊢
      rw [attsSt_fresh f (some r) q.atts hw]
      simp [seqRun_cons, seqRun_nil, seqStep, inAtt]
    · have hi' : q.initial = false := by simpa using hi
      simp [hi', seqRun_nil]
  by_cases hp : q.fin = .pending
  · have hnil := e3 (hok.2.resolve_left (by simp [hp]))
    simp only [emitRule, hp, beq_self_eq_true, if_true]
    refine ⟨?_, by simp [ruleWF, hnil, attsWF]⟩
    simp only [seqRun_append, hpre, Option.bind_some, hs, hnil]
    simp [attsSt, seqRun_cons, seqRun_nil, seqStep, inAtt]
  · have hp' : (q.fin == Fin.pending) = false := by simpa using hp
    simp only [emitRule, hp', Bool.false_eq_true, if_false]
    refine ⟨?_, by simpa [ruleWF] using hwf⟩
    simp only [seqRun_append, hpre, Option.bind_some, hs]
    simp [ruleSt]

def itemsSt (f : Nat) : List Item → SeqSt
  | [] => inAtt f none none
  | .att a :: _ => inAtt f none (if attFresh a then none else some (attKey f none a))
  | .rule r q :: _ => ruleSt f r q

def itemFresh : Item → Bool
  | .att a => attFresh a
  | .rule _ q => ruleFresh q

def itemsWF : List Item → Bool
  | [] => true
  | .att a :: rest => (attFresh a || attPartial a) && rest.all itemFresh
  | .rule _ q :: rest => ruleWF q && rest.all itemFresh

theorem itemsSt_fresh (f : Nat) (items : List Item) (h : items.all itemFresh = true) : itemsSt f items = inAtt f none none := by
  cases items with
  | nil => rfl
  | cons it rest =>
    simp only [all_cons, Bool.and_eq_true] at h
    cases it with
    | att a => simp only [itemFresh] at h; simp [itemsSt, h.1]
    | rule r q =>
      simp only [itemFresh, ruleFresh, Bool.and_eq_true] at h
      simp [itemsSt, ruleSt, h.1.1]

theorem itemsWF_fresh (items : List Item) (h : items.all itemFresh = true) : itemsWF items = true := by
  cases items with
  | nil => rfl
  | cons it rest =>
    simp only [all_cons, Bool.and_eq_true] at h
    cases it with
    | att a => simp only [itemFresh] at h; simp [itemsWF, h.1, h.2]
    | rule r q =>
      simp only [itemFresh, ruleFresh, Bool.and_eq_true] at h
      simp [itemsWF, ruleWF, h.1.1, h.1.2, h.2]

theorem emitItems_seq (f : Nat) (items : List Item) (hok : items.all itemOk = true) (hw : itemsWF items = true) :
    seqRun (itemsSt f items) (emitItems f items).1 = some (itemsSt f (emitItems f items).2) ∧
    itemsWF (emitItems f items).2 = true := by
  induction items with
  | nil => simp [emitItems, seqRun_nil, itemsWF]
  | cons it rest ih =>
    simp only [all_cons, Bool.and_eq_true] at hok
    cases it with
    | att a =>
      simp only [itemsWF, Bool.and_eq_true, Bool.or_eq_true] at hw
      have hatt := seqRun_att f none a hok.1 hw.1
      simp only [emitItems, emitAtt_done a hok.1, (emitAtt_clean a.evs hok.1).1, itemsSt]
      cases hcomp : attComplete a with
      | true =>
        rw [hcomp] at hatt
        simp only [if_true, seqRun_append, hatt, Option.bind_some]
        have := ih hok.2 (itemsWF_fresh rest hw.2)
        rwa [itemsSt_fresh f rest hw.2] at this
      | false =>
        rw [hcomp] at hatt
        simp only [Bool.false_eq_true, if_false, hatt]
        simp [attFresh, itemsWF, attPartial, attKey, hw.2]
    | rule r q =>
      simp only [itemsWF, Bool.and_eq_true] at hw
      simp only [itemOk] at hok
      obtain ⟨hs, hwf⟩ := emitRule_seq f r q hok.1 hw.1
      simp only [emitItems]
      by_cases hf : (emitRule f r q).2.1 = true
      · simp only [hf, if_true] at hs ⊢
        simp only [seqRun_append, itemsSt, hs, Option.bind_some]
        have := ih hok.2 (itemsWF_fresh rest hw.2)
        rwa [itemsSt_fresh f rest hw.2] at this
      · simp only [hf, Bool.false_eq_true, if_false] at hs ⊢
        simp only [itemsSt, hs]
        simp [itemsWF, hwf, hw.2]

def featSt (fq : Nat × FeatQ) : SeqSt := if fq.2.initial then {} else itemsSt fq.1 fq.2.items

def featsSt : List (Nat × FeatQ) → SeqSt
  | [] => {}
  | fq :: _ => featSt fq

def featFresh (fq : Nat × FeatQ) : Bool := fq.2.initial && fq.2.items.all itemFresh

def featWF (fq : Nat × FeatQ) : Bool := if fq.2.initial then fq.2.items.all itemFresh else itemsWF fq.2.items

def featsWF : List (Nat × FeatQ) → Bool
  | [] => true
  | fq :: rest => featWF fq && rest.all featFresh

theorem featsSt_fresh (fs : List (Nat × FeatQ)) (h : fs.all featFresh = true) : featsSt fs = {} := by
  cases fs with
  | nil => rfl
  | cons fq rest =>
    simp only [all_cons, Bool.and_eq_true, featFresh] at h
    simp [featsSt, featSt, h.1.1]

theorem featsWF_fresh (fs : List (Nat × FeatQ)) (h : fs.all featFresh = true) : featsWF fs = true := by
  cases fs with
  | nil => rfl
  | cons fq rest =>
    simp only [all_cons, Bool.and_eq_true, featFresh] at h
    simp [featsWF, featWF, h.1.1, h.1.2, h.2]

theorem emitFeats_seq (fs : List (Nat × FeatQ)) (hok : fs.all featOk = true) (hw : featsWF fs = true) :
    seqRun (featsSt fs) (emitFeats fs).1 = some (featsSt (emitFeats fs).2) ∧ featsWF (emitFeats fs).2 = true := by
  induction fs with
  | nil => simp [emitFeats, seqRun_nil, featsWF]
  | cons fq rest ih =>
    obtain ⟨f, q⟩ := fq
    simp only [all_cons, Bool.and_eq_true] at hok
    simp only [featsWF, Bool.and_eq_true] at hw
    have hq := hok.1
    simp only [featOk, Bool.and_eq_true, Bool.or_eq_true] at hq
    have hiw : itemsWF q.items = true := by
      have := hw.1
      simp only [featWF] at this
      split at this
      · exact itemsWF_fresh _ this
      · exact this
    obtain ⟨hs, hwf⟩ := emitItems_seq f q.items hq.1 hiw
    obtain ⟨_, _, e3⟩ := emitItems_eq f q.items hq.1
    have hpre : seqRun (featSt (f, q)) (if q.initial then [Ev.featStarted f] else []) = some (itemsSt f q.items) := by
      simp only [featSt]
      by_cases hi : q.initial = true
      · have hfr : q.items.all itemFresh = true := by simpa [featWF, hi] using hw.1
        simp only [hi, if_true]
        rw [itemsSt_fresh f q.items hfr]
        simp [seqRun_cons, seqRun_nil, seqStep, inAtt]
      · have hi' : q.initial = false := by simpa using hi
        simp [hi', seqRun_nil]
    simp only [emitFeats]
    by_cases hp : q.fin = .pending
    · have hnil := e3 (hq.2.resolve_left (by simp [hp]))
      simp only [hp, beq_self_eq_true, if_true]
      have hrest := ih hok.2 (featsWF_fresh rest hw.2)
      rw [featsSt_fresh rest hw.2] at hrest
      refine ⟨?_, hrest.2⟩
      have hclose : seqRun (inAtt f none none) [Ev.featFinished f] = some {} := by
        simp [seqRun_cons, seqRun_nil, seqStep, inAtt]
      simp only [featsSt, seqRun_append, hpre, Option.bind_some, hs, hnil]
      simp only [itemsSt, hclose, Option.bind_some]
      exact hrest.1
    · have hp' : (q.fin == Fin.pending) = false := by simpa using hp
      simp only [hp', Bool.false_eq_true, if_false]
      refine ⟨?_, ?_⟩
      · simp only [featsSt, seqRun_append, hpre, Option.bind_some, hs]
        simp [featSt]
      · simp [featsWF, featWF, hwf, hw.2]

/-- the update `l ↦ l'` of one queue level is invisible to the automaton: entries nothing has been emitted
    from stay so, "only the head entry has been emitted from" is kept, and the state shown is the same -/
def Unseen {α σ : Type} (fresh : α → Bool) (WF : List α → Bool) (St : List α → σ) (l l' : List α) : Prop :=
  (l.all fresh = true → l'.all fresh = true) ∧ (WF l = true → WF l' = true) ∧ St l' = St l

section
variable {α σ : Type} {fresh wfHead : α → Bool} {headSt : α → σ} {WF : List α → Bool} {St : List α → σ}
  (hWF : ∀ a rest, WF (a :: rest) = (wfHead a && rest.all fresh)) (hSt : ∀ a rest, St (a :: rest) = headSt a)
include hWF hSt

theorem Unseen.replace (l1 : List α) {a a' : α} (l2 : List α) (h1 : fresh a = true → fresh a' = true)
    (h2 : wfHead a = true → wfHead a' = true) (h3 : headSt a' = headSt a) :
    Unseen fresh WF St (l1 ++ a :: l2) (l1 ++ a' :: l2) := by
  cases l1 with
  | nil =>
    simp only [nil_append, Unseen, all_cons, hWF, hSt, Bool.and_eq_true]
    exact ⟨fun h => ⟨h1 h.1, h.2⟩, fun h => ⟨h2 h.1, h.2⟩, h3⟩
  | cons b l1 =>
    simp only [cons_append, Unseen, all_cons, all_append, hWF, hSt, Bool.and_eq_true]
    exact ⟨fun h => ⟨h.1, h.2.1, h1 h.2.2.1, h.2.2.2⟩, fun h => ⟨h.1, h.2.1, h1 h.2.2.1, h.2.2.2⟩, trivial⟩

theorem Unseen.append (l : List α) {a0 : α} (hf : fresh a0 = true) (hw : wfHead a0 = true) (h0 : headSt a0 = St []) :
    Unseen fresh WF St l (l ++ [a0]) := by
  cases l with
  | nil => simp [Unseen, hWF, hSt, hf, hw, h0]
  | cons b l =>
    simp only [cons_append, Unseen, all_cons, all_append, hWF, hSt, Bool.and_eq_true, all_nil, Bool.and_true]
    exact ⟨fun h => ⟨h.1, h.2, hf⟩, fun h => ⟨h.1, h.2, hf⟩, trivial⟩
end

theorem attFresh_push (a : AttQ) (ev : ScenEv) (h : ev ≠ .started) : attFresh (a.push ev) = attFresh a := by
  simp only [attFresh, AttQ.push]
  cases hevs : a.evs with
  | nil => simp [h]
  | cons e0 rest =>
    have : (ev != ScenEv.started) = true := by simpa using h
    simp [all_append, this]

theorem attPartial_push (a : AttQ) (ev : ScenEv) (h : ev ≠ .started) : attPartial (a.push ev) = attPartial a := by
  simp [attPartial, AttQ.push, all_append, h]

/-- the extra clause of the Runner contract T2 needs: an attempt's first event is `Started`, and `Started`
    is not sent twice for an attempt that is still queued -/
def startsRight (atts : List AttQ) (scen : Nat) (ret : Option Retries) (ev : ScenEv) : Bool :=
  atts.any (AttQ.is scen ret) != (ev == .started)

theorem pushAtt_unseen (f : Nat) (r : Option Nat) (atts : List AttQ) (scen : Nat) (ret : Option Retries) (ev : ScenEv)
    (hc : startsRight atts scen ret ev = true) :
    Unseen attFresh attsWF (attsSt f r) atts (pushAtt atts scen ret ev) := by
  rcases pushAtt_cases atts scen ret ev with ⟨A1, a, A2, rfl, h1, h2, _, he⟩ | ⟨hm, he⟩
  · have hev : ev ≠ .started := by
      intro h0; simp [startsRight, is_iff.mpr ⟨h1, h2⟩, h0] at hc
    rw [he]
    refine Unseen.replace (wfHead := fun a => attFresh a || attPartial a)
      (headSt := fun a => if attFresh a then none else some (attKey f r a)) (fun _ _ => rfl) (fun _ _ => rfl) A1 A2 ?_ ?_ ?_
    · rw [attFresh_push a ev hev]; exact id
    · rw [attFresh_push a ev hev, attPartial_push a ev hev]; exact id
    · simp only [attFresh_push a ev hev]; rfl
  · have hev : ev = .started := by
      have : atts.any (AttQ.is scen ret) = false := any_eq_false.mpr (fun x hx => by simp [hm x hx])
      simpa [startsRight, this] using hc
    subst hev
    rw [he]
    exact Unseen.append (wfHead := fun a => attFresh a || attPartial a)
      (headSt := fun a => if attFresh a then none else some (attKey f r a)) (fun _ _ => rfl) (fun _ _ => rfl) atts
      (by simp [attFresh]) (by simp [attFresh]) (by simp [attFresh, attsSt])

def startsRightF (q : FeatQ) (rule : Option Nat) (scen : Nat) (ret : Option Retries) (ev : ScenEv) : Bool :=
  match rule with
  | some r =>
    match q.items.find? (Item.isRule r) with
    | some (.rule _ rq) => startsRight rq.atts scen ret ev
    | _ => true
  | none => q.items.any (Item.isAtt scen ret) != (ev == .started)

def itemWFHead : Item → Bool
  | .att a => attFresh a || attPartial a
  | .rule _ q => ruleWF q

def itemHeadSt (f : Nat) : Item → SeqSt
  | .att a => inAtt f none (if attFresh a then none else some (attKey f none a))
  | .rule r q => ruleSt f r q

theorem itemsWF_cons (it : Item) (rest : List Item) : itemsWF (it :: rest) = (itemWFHead it && rest.all itemFresh) := by
  cases it <;> rfl

theorem itemsSt_cons (f : Nat) (it : Item) (rest : List Item) : itemsSt f (it :: rest) = itemHeadSt f it := by
  cases it <;> rfl

theorem rule_unseen {f r : Nat} {rq : RuleQ} {atts' : List AttQ}
    (h : Unseen attFresh attsWF (attsSt f (some r)) rq.atts atts') :
    (itemFresh (.rule r rq) = true → itemFresh (.rule r { rq with atts := atts' }) = true) ∧
    (itemWFHead (.rule r rq) = true → itemWFHead (.rule r { rq with atts := atts' }) = true) ∧
    itemHeadSt f (.rule r { rq with atts := atts' }) = itemHeadSt f (.rule r rq) := by
  obtain ⟨a, b, c⟩ := h
  refine ⟨?_, ?_, ?_⟩
  · simp only [itemFresh, ruleFresh, Bool.and_eq_true]
    exact fun h => ⟨h.1, a h.2⟩
  · simp only [itemWFHead, ruleWF]
    split
    · exact a
    · exact b
  · simp only [itemHeadSt, ruleSt, c]

theorem feat_unseen {f : Nat} {q : FeatQ} {items' : List Item}
    (h : Unseen itemFresh itemsWF (itemsSt f) q.items items') :
    (featFresh (f, q) = true → featFresh (f, { q with items := items' }) = true) ∧
    (featWF (f, q) = true → featWF (f, { q with items := items' }) = true) ∧
    featSt (f, { q with items := items' }) = featSt (f, q) := by
  obtain ⟨a, b, c⟩ := h
  refine ⟨?_, ?_, ?_⟩
  · simp only [featFresh, Bool.and_eq_true]
    exact fun h => ⟨h.1, a h.2⟩
  · simp only [featWF]
    split
    · exact a
    · exact b
  · simp only [featSt, c]

theorem insertScen_unseen (f : Nat) (q q' : FeatQ) (rule : Option Nat) (scen : Nat) (ret : Option Retries) (ev : ScenEv)
    (h : q.insertScen rule scen ret ev = some q') (hc : startsRightF q rule scen ret ev = true) :
    ∃ items', q' = { q with items := items' } ∧ Unseen itemFresh itemsWF (itemsSt f) q.items items' := by
  cases rule with
  | some r =>
    obtain ⟨I1, rq, I2, hi, hm, rfl⟩ := insertScen_some h
    simp only [startsRightF, hi, find?_split I2 hm (isRule_rule r rq)] at hc
    obtain ⟨h1, h2, h3⟩ := rule_unseen (pushAtt_unseen f (some r) rq.atts scen ret ev hc)
    exact ⟨_, rfl, hi ▸ Unseen.replace itemsWF_cons (itemsSt_cons f) I1 I2 h1 h2 h3⟩
  | none =>
    rcases insertScen_none h with ⟨I1, a, I2, hi, h1, h2, _, rfl⟩ | ⟨hm, rfl⟩
    · have hev : ev ≠ .started := by
        intro h0; simp [startsRightF, hi, Item.isAtt, h1, h2, h0] at hc
      refine ⟨_, rfl, hi ▸ Unseen.replace itemsWF_cons (itemsSt_cons f) I1 I2 ?_ ?_ ?_⟩
      · simp only [itemFresh, attFresh_push a ev hev]; exact id
      · simp only [itemWFHead, attFresh_push a ev hev, attPartial_push a ev hev]; exact id
      · simp only [itemHeadSt, attFresh_push a ev hev]; rfl
    · have hev : ev = .started := by
        have : q.items.any (Item.isAtt scen ret) = false := any_eq_false.mpr (fun x hx => by simp [hm x hx])
        simpa [startsRightF, this] using hc
      subst hev
      exact ⟨_, rfl, Unseen.append itemsWF_cons (itemsSt_cons f) q.items (by simp [itemFresh, attFresh])
        (by simp [itemWFHead, attFresh]) (by simp [itemHeadSt, attFresh, itemsSt])⟩

/-- the T2 clause of the Runner contract, relative to the queue -/
def startsRightN (n : Norm) : Ev → Bool
  | .scen k ret ev =>
    match featIn n k.feat with
    | some q => startsRightF q k.rule k.scen ret ev
    | none => true
  | _ => true

theorem insert_seq (n n1 : Norm) (e : Ev) (hs : Safe n e = true) (hc : startsRightN n e = true)
    (hw : featsWF n.feats = true) (h : n.insert e = some n1) :
    featsSt n1.feats = featsSt n.feats ∧ featsWF n1.feats = true := by
  suffices hu : Unseen featFresh featsWF featsSt n.feats n1.feats from ⟨hu.2.2, hu.2.1 hw⟩
  -- an event for a queued feature replaces that feature's entry by one whose items changed invisibly
  have lift : ∀ {F1 : List (Nat × FeatQ)} {f q items' F2}, n.feats = F1 ++ (f, q) :: F2 →
      Unseen itemFresh itemsWF (itemsSt f) q.items items' →
      Unseen featFresh featsWF featsSt n.feats (F1 ++ (f, { q with items := items' }) :: F2) := by
    intro F1 f q items' F2 hfs hq
    obtain ⟨h1, h2, h3⟩ := feat_unseen hq
    exact hfs ▸ Unseen.replace (fun _ _ => rfl) (fun _ _ => rfl) F1 F2 h1 h2 h3
  cases e with
  | featStarted f =>
    obtain ⟨_, rfl⟩ := insert_featStarted hs h
    exact Unseen.append (fun _ _ => rfl) (fun _ _ => rfl) n.feats (by simp [featFresh, FeatQ.new])
      (by simp [featWF, FeatQ.new]) rfl
  | featFinished f =>
    obtain ⟨F1, q, F2, hfs, _, _, rfl⟩ := insert_featFinished hs h
    exact hfs ▸ Unseen.replace (fun _ _ => rfl) (fun _ _ => rfl) F1 F2 id id rfl
  | ruleStarted f r =>
    obtain ⟨F1, q, F2, hfs, _, _, rfl⟩ := insert_ruleStarted hs h
    exact lift hfs (Unseen.append itemsWF_cons (itemsSt_cons f) q.items (by simp [itemFresh, ruleFresh, RuleQ.new])
      (by simp [itemWFHead, ruleWF, RuleQ.new]) (by simp [itemHeadSt, ruleSt, RuleQ.new, itemsSt]))
  | ruleFinished f r =>
    obtain ⟨F1, q, F2, I1, rq, I2, hfs, hi, _, _, rfl⟩ := insert_ruleFinished hs h
    exact lift hfs (hi ▸ Unseen.replace itemsWF_cons (itemsSt_cons f) I1 I2 id id rfl)
  | scen k ret ev =>
    obtain ⟨F1, q, q', F2, hfs, hq, hg, rfl⟩ := insert_split h
    simp only [startsRightN, hq] at hc
    obtain ⟨items', rfl, hu⟩ := insertScen_unseen k.feat q q' k.rule k.scen ret ev hg hc
    exact lift hfs hu
  | _ => cases h; exact ⟨id, id, rfl⟩

/-- the queue that shows automaton state `s` with nothing buffered -/
def canonItems (rule : Option Nat) (att : Option (ScenKey × Option Retries)) : List Item :=
  match rule, att with
  | none, none => []
  | none, some (k, ret) => [.att { scen := k.scen, ret := ret, evs := [] }]
  | some r, none => [.rule r { initial := false, fin := .no, atts := [] }]
  | some r, some (k, ret) => [.rule r { initial := false, fin := .no, atts := [{ scen := k.scen, ret := ret, evs := [] }] }]

def canon (s : SeqSt) : List (Nat × FeatQ) :=
  match s.feat with
  | none => []
  | some f => [(f, { initial := false, fin := .no, items := canonItems s.rule s.att })]

/-- holds of every state the automaton reaches (`canon_step` keeps it) -/
def stOk (s : SeqSt) : Bool :=
  match s.feat with
  | none => s.rule.isNone && s.att.isNone
  | some f => match s.att with
    | none => true
    | some (k, _) => k.feat == f && k.rule == s.rule

theorem emit_canon (s : SeqSt) : emitFeats (canon s) = ([], canon s) := by
  obtain ⟨feat, rule, att, fin⟩ := s
  cases feat <;> cases rule <;> cases att <;>
    simp [canon, canonItems, emitFeats, emitItems, emitRule, emitAtts, emitAtt, wrapAtt]

section
/- symbolic evaluation of `handle` on a queue with at most one entry per level -/
attribute [local simp] Norm.handle Norm.insert updFeat canon canonItems emitFeats emitItems emitRule emitAtts emitAtt
  Ev.isRunLevel stOk wrapAtt FeatQ.newRule FeatQ.ruleFinished FeatQ.insertScen updFirst Item.isRule Item.isAtt
  Item.finishRule Item.pushInRule Item.pushAtt pushAtt AttQ.is AttQ.push RuleQ.new FeatQ.new
/- `any` over a one-entry queue is to be computed; as a statement about membership it is slow to check -/
attribute [-simp] any_eq_true

theorem canon_step (s s' : SeqSt) (e : Ev) (hok : stOk s = true) (hf : s.finished = false)
    (h : seqStep s e = some s') (hne : e ≠ .finished) :
    ({ feats := canon s, fin := .no } : Norm).handle e = some ({ feats := canon s', fin := .no }, [e]) ∧ stOk s' = true ∧
    s'.finished = false := by
  obtain ⟨feat, rule, att, fin⟩ := s
  simp only at hf
  subst hf
  -- an accepted event passed the test of its branch of `seqStep`; `handle` is then evaluated on the canonical queue
  cases e with
  | finished => exact absurd rfl hne
  | featStarted f =>
    simp only [seqStep, Bool.false_eq_true, if_false, Option.ite_none_right_eq_some, Option.some.injEq,
      Option.isNone_iff_eq_none] at h
    obtain ⟨rfl, rfl⟩ := h
    simp only [stOk, Bool.and_eq_true, Option.isNone_iff_eq_none] at hok
    obtain ⟨rfl, rfl⟩ := hok
    simp
  | featFinished f | ruleStarted f r | ruleFinished f r =>
    simp only [seqStep, Bool.false_eq_true, if_false, Option.ite_none_right_eq_some, Option.some.injEq, Bool.and_eq_true,
      beq_iff_eq, Option.isNone_iff_eq_none] at h
    obtain ⟨⟨⟨rfl, rfl⟩, rfl⟩, rfl⟩ := h
    simp
  | scen k ret se =>
    obtain ⟨kf, kr, ks⟩ := k
    by_cases h1 : se = .started
    · subst h1
      simp only [seqStep, Bool.false_eq_true, if_false, Option.ite_none_right_eq_some, Option.some.injEq, Bool.and_eq_true,
        beq_iff_eq, Option.isNone_iff_eq_none] at h
      obtain ⟨⟨rfl, rfl⟩, rfl, rfl⟩ := h
      cases rule <;> simp
    · by_cases h2 : se = .finished
      · subst h2
        simp only [seqStep, Bool.false_eq_true, if_false, Option.ite_none_right_eq_some, Option.some.injEq, Bool.and_eq_true,
          beq_iff_eq] at h
        obtain ⟨⟨rfl, rfl⟩, rfl, rfl⟩ := h
        cases rule <;> simp
      · rw [seqStep_mid _ _ _ _ h1 h2] at h
        simp only [Bool.false_eq_true, if_false, Option.ite_none_right_eq_some, Option.some.injEq, Bool.and_eq_true,
          beq_iff_eq] at h
        obtain ⟨⟨rfl, rfl⟩, rfl, rfl⟩ := h
        have h2' : (se == ScenEv.finished) = false := by simpa using h2
        cases rule <;> simp [h2']
  | _ =>
    simp only [seqStep, Bool.false_eq_true, if_false, Option.some.injEq] at h; subst h
    exact ⟨by simp only [Norm.handle, Norm.insert, emit_canon]; rfl, hok, rfl⟩

theorem canon_finished (s s' : SeqSt) (hf : s.finished = false) (h : seqStep s .finished = some s') :
    ({ feats := canon s, fin := .no } : Norm).handle .finished = some ({ feats := [], fin := .emitted }, [.finished]) ∧
    s'.finished = true := by
  obtain ⟨feat, rule, att, fin⟩ := s
  simp only at hf
  subst hf
  simp only [seqStep, Bool.false_eq_true, if_false, Option.ite_none_right_eq_some, Option.some.injEq, Bool.and_eq_true,
    Option.isNone_iff_eq_none] at h
  obtain ⟨⟨⟨rfl, rfl⟩, rfl⟩, rfl⟩ := h
  simp
end

theorem seqRun_finished_nil (s s' : SeqSt) (evs : List Ev) (hf : s.finished = true) (h : seqRun s evs = some s') : evs = [] := by
  cases evs with
  | nil => rfl
  | cons e es =>
    rw [seqRun_cons] at h
    simp [seqStep, hf] at h

theorem passthrough_from (s0 s : SeqSt) (evs : List Ev) (hok : stOk s0 = true) (hf : s0.finished = false)
    (h : seqRun s0 evs = some s) :
    ∃ n', normRun { feats := canon s0, fin := .no } evs = some (n', evs.map (fun e => [e])) := by
  induction evs generalizing s0 with
  | nil => exact ⟨_, rfl⟩
  | cons e es ih =>
    rw [seqRun_cons] at h
    cases hs : seqStep s0 e with
    | none => simp [hs] at h
    | some s1 =>
      simp only [hs, Option.bind_some] at h
      by_cases he : e = .finished
      · subst he
        obtain ⟨hh, hfin⟩ := canon_finished s0 s1 hf hs
        have := seqRun_finished_nil s1 s es hfin h
        subst this
        exact ⟨_, normRun_cons hh rfl⟩
      · obtain ⟨hh, hok1, hf1⟩ := canon_step s0 s1 e hok hf hs he
        obtain ⟨n', hn'⟩ := ih s1 hok1 hf1 h
        exact ⟨n', normRun_cons hh hn'⟩

/-- after an emission the buffers of the entries at the head of the output are empty: everything that
    could be forwarded has been -/
def attsDrained : List AttQ → Bool
  | [] => true
  | a :: _ => a.evs.isEmpty

def itemsDrained : List Item → Bool
  | [] => true
  | .att a :: _ => a.evs.isEmpty
  | .rule _ rq :: _ => rq.initial || attsDrained rq.atts

def headDrained : List (Nat × FeatQ) → Bool
  | [] => true
  | (_, q) :: _ => q.initial || itemsDrained q.items

theorem emitAtts_drained (f : Nat) (r : Option Nat) (atts : List AttQ) : attsDrained (emitAtts f r atts).2 = true := by
  induction atts with
  | nil => rfl
  | cons a rest ih =>
    simp only [emitAtts]
    split
    · exact ih
    · rfl

theorem emitItems_drained (f : Nat) (items : List Item) : itemsDrained (emitItems f items).2 = true := by
  induction items with
  | nil => rfl
  | cons it rest ih =>
    cases it with
    | att a =>
      simp only [emitItems]
      split
      · exact ih
      · rfl
    | rule r q =>
      simp only [emitItems]
      split
      · exact ih
      · simp only [itemsDrained, emitRule]
        split <;> simp [emitAtts_drained]

theorem emitFeats_drained (fs : List (Nat × FeatQ)) : headDrained (emitFeats fs).2 = true := by
  induction fs with
  | nil => rfl
  | cons fq rest ih =>
    obtain ⟨f, q⟩ := fq
    simp only [emitFeats]
    split
    · exact ih
    · simp [headDrained, emitItems_drained]

theorem emitAtt_head (e : ScenEv) (es : List ScenEv) : (emitAtt (e :: es)).1.head? = some e := by
  simp only [emitAtt]
  split <;> rfl

theorem emitAtts_head (f : Nat) (r : Option Nat) (a : AttQ) (rest : List AttQ) (e : ScenEv) (es : List ScenEv)
    (h : a.evs = e :: es) : (emitAtts f r (a :: rest)).1.head? = some (.scen ⟨f, r, a.scen⟩ a.ret e) := by
  have := emitAtt_head e es
  simp only [emitAtts, h]
  split <;> simp [wrapAtt, head?_append, this]

theorem emitItems_head (f : Nat) (it : Item) (items : List Item) (ro : Option Nat) (a : AttQ) (e : ScenEv) (es : List ScenEv)
    (h : a.evs = e :: es)
    (hit : match ro with
      | none => it = .att a
      | some r => ∃ rq atts, it = .rule r rq ∧ rq.initial = false ∧ rq.atts = a :: atts) :
    (emitItems f (it :: items)).1.head? = some (.scen ⟨f, ro, a.scen⟩ a.ret e) := by
  cases ro with
  | none =>
    subst hit
    have := emitAtt_head e es
    simp only [emitItems, h]
    split <;> simp [wrapAtt, head?_append, this]
  | some r =>
    obtain ⟨rq, atts, rfl, hi, ha⟩ := hit
    have : (emitRule f r rq).1.head? = some (.scen ⟨f, some r, a.scen⟩ a.ret e) := by
      have := emitAtts_head f (some r) a atts e es h
      simp only [emitRule, hi, ha, Bool.false_eq_true, if_false, nil_append]
      split <;> simp [head?_append, this]
    simp only [emitItems]
    split <;> simp [head?_append, this]

theorem emitFeats_head (f : Nat) (q : FeatQ) (rest : List (Nat × FeatQ)) (x : Ev) (hi : q.initial = false)
    (hx : (emitItems f q.items).1.head? = some x) : (emitFeats ((f, q) :: rest)).1.head? = some x := by
  simp only [emitFeats, hi]
  split <;> simp [head?_append, hx]

/-- the queue shows an attempt open, and what could be emitted has been: that attempt is at the head of the head
    item of the head feature, with an empty buffer -/
theorem open_head (fs : List (Nat × FeatQ)) (f : Nat) (ro : Option Nat) (κ : ScenKey × Option Retries)
    (hd : headDrained fs = true) (hst : featsSt fs = inAtt f ro (some κ)) :
    ∃ q rest it items a, fs = (f, q) :: rest ∧ q.initial = false ∧ q.items = it :: items ∧ attKey f ro a = κ ∧ a.evs = [] ∧
      match ro with
      | none => it = .att a
      | some r => ∃ rq atts, it = .rule r rq ∧ rq.initial = false ∧ rq.atts = a :: atts := by
  cases fs with
  | nil => simp [featsSt, inAtt] at hst
  | cons fq rest =>
    obtain ⟨f', q⟩ := fq
    simp only [featsSt, featSt] at hst
    split at hst
    · simp [inAtt] at hst
    · rename_i hi
      have hi : q.initial = false := by simpa using hi
      simp only [headDrained, hi, Bool.false_or] at hd
      cases hitems : q.items with
      | nil => simp [hitems, itemsSt, inAtt] at hst
      | cons it items =>
        rw [hitems] at hst hd
        cases it with
        | att a =>
          simp only [itemsSt, inAtt, SeqSt.mk.injEq, Option.some.injEq] at hst
          obtain ⟨rfl, rfl, ha, _⟩ := hst
          split at ha
          · cases ha
          · exact ⟨q, rest, _, items, a, rfl, hi, hitems, Option.some.inj ha, by simpa [itemsDrained] using hd, rfl⟩
        | rule r rq =>
          simp only [itemsSt, ruleSt] at hst
          split at hst
          · simp [inAtt] at hst
          · rename_i hri
            have hri : rq.initial = false := by simpa using hri
            simp only [inAtt, SeqSt.mk.injEq, Option.some.injEq] at hst
            obtain ⟨rfl, rfl, ha, _⟩ := hst
            simp only [itemsDrained, hri, Bool.false_or] at hd
            cases hatts : rq.atts with
            | nil => simp [hatts, attsSt] at ha
            | cons a atts =>
              rw [hatts] at ha hd
              simp only [attsSt] at ha
              split at ha
              · cases ha
              · exact ⟨q, rest, _, items, a, rfl, hi, hitems, Option.some.inj ha, by simpa [attsDrained] using hd,
                  rq, atts, rfl, hri, hatts⟩

/-- **T4b**: an event of the attempt that the queue shows as OPEN at the head of the output is forwarded by
    the very call that receives it, first — it does not wait for the attempt (or anything else) to finish. -/
theorem head_event_forwarded (n n' : Norm) (k : ScenKey) (ret : Option Retries) (ev : ScenEv) (out : List Ev)
    (hno : n.fin = .no) (hd : headDrained n.feats = true)
    (hst : featsSt n.feats = inAtt k.feat k.rule (some (k, ret)))
    (h : n.handle (.scen k ret ev) = some (n', out)) : out.head? = some (.scen k ret ev) := by
  obtain ⟨kf, kr, ks⟩ := k
  obtain ⟨q, rest, it, items, a, hfs, hi, hitems, hkey, hevs, hit⟩ := open_head n.feats kf kr (⟨kf, kr, ks⟩, ret) hd hst
  simp only [attKey, Prod.mk.injEq, ScenKey.mk.injEq, true_and] at hkey
  obtain ⟨hs1, hs2⟩ := hkey
  have hpush : (a.push ev).evs = ev :: [] := by simp [AttQ.push, hevs]
  -- the insertion reaches that attempt (`any` is computed: as a statement about membership it is slow to check), so
  -- emission starts with the event
  have hx : ∃ n1, n.insert (.scen ⟨kf, kr, ks⟩ ret ev) = some n1 ∧
      (emitFeats n1.feats).1.head? = some (.scen ⟨kf, kr, (a.push ev).scen⟩ (a.push ev).ret ev) := by
    cases kr with
    | none =>
      refine ⟨{ n with feats := (kf, { q with items := .att (a.push ev) :: items }) :: rest }, ?_, ?_⟩
      · simp [-any_eq_true, Norm.insert, hfs, updFeat, FeatQ.insertScen, hitems, hit, Item.isAtt, hs1, hs2, updFirst,
          Item.pushAtt]
      · exact emitFeats_head kf _ rest _ hi (emitItems_head kf _ items none _ ev [] hpush rfl)
    | some r =>
      obtain ⟨rq, atts, rfl, hri, hatts⟩ := hit
      refine ⟨{ n with feats := (kf, { q with items := .rule r { rq with atts := a.push ev :: atts } :: items }) :: rest },
        ?_, ?_⟩
      · simp [-any_eq_true, Norm.insert, hfs, updFeat, FeatQ.insertScen, hitems, Item.isRule, updFirst, Item.pushInRule,
          pushAtt, hatts, AttQ.is, hs1, hs2]
      · exact emitFeats_head kf _ rest _ hi (emitItems_head kf _ items (some r) _ ev [] hpush ⟨_, atts, rfl, hri, rfl⟩)
  obtain ⟨n1, hi1, hx⟩ := hx
  simp only [AttQ.push, hs1, hs2] at hx
  obtain ⟨n1', hi1', rfl, _⟩ := handle_no hno h
  cases hi1.symm.trans hi1'
  simp [Ev.isRunLevel, hx]

end Cuke.NormL
