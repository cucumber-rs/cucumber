import Cuke.Lemmas.SchedOrder
/-!
  C03, the run-level brackets over WHOLE runs: in every log replayed without a disagreement, counting over the events
  sent so far and the events still owed (`hist`), there is exactly one run-`Started` from the moment `execute` takes the
  panic hook on, and exactly one run-`Finished` from the exit decision on — none before. With nothing owed at the end
  (`finalChecks`), the SENT stream of a complete run holds exactly one of each.
-/
namespace Cuke.SchedRunLevel
open Cuke List Cuke.BrL Cuke.SchedOrd Cuke.SchedBr Cuke.SchedStep

def isRunEv (x : Ev) : Prop := x = .started ∨ x = .finished

theorem cnt_brackets (x : Ev) (hx : isRunEv x) (l : List Ev) (h : ∀ e ∈ l, isBr e = true) : cnt x l = 0 := by
  apply cnt_zero_of_not_mem
  intro hm
  have := h x hm
  rcases hx with rfl | rfl <;> simp [isBr] at this

theorem startScenarios_isBr (b : Brackets) (l : List Entry) : ∀ e ∈ (startScenarios b l).2, isBr e = true := by
  intro e he
  simp only [startScenarios, mem_append, mem_map] at he
  rcases he with ⟨f, _, rfl⟩ | ⟨fr, _, rfl⟩ <;> rfl

theorem scenarioFinished_isBr (b : Brackets) (k : ScenKey) (r : Bool) (nR nF : Nat) (b' : Brackets) (evs : List Ev)
    (h : scenarioFinished b k r nR nF = some (b', evs)) : ∀ e ∈ evs, isBr e = true := by
  cases r with
  | true =>
    simp only [scenarioFinished, if_true, Option.some.injEq, Prod.mk.injEq] at h
    exact h.2 ▸ nofun
  | false =>
    intro e he
    rcases (scenarioFinished_spec h).2.2 e he with rfl | ⟨ru, rfl⟩ <;> rfl

theorem finishAll_isBr (b : Brackets) : (∀ e ∈ (finishAll b).1, isBr e = true) ∧ (∀ e ∈ (finishAll b).2, isBr e = true) := by
  constructor <;> (intro e he; simp only [finishAll, mem_map] at he; obtain ⟨x, _, rfl⟩ := he; rfl)

/-- before the run (0), inside the loop (1), after the exit decision (2) -/
def pc : Phase → Nat
  | .init => 0
  | .exiting | .exited => 2
  | _ => 1

def RInv (s : SState) : Prop :=
  cnt .started (hist s) = (if pc s.phase = 0 then 0 else 1) ∧
  cnt .finished (hist s) = (if pc s.phase = 2 then 1 else 0)

theorem rinv_init : RInv ({} : SState) := by simp [RInv, hist, cnt, expEvents, pc]

theorem cnt_hist_owe {x : Ev} (s s' : SState) {l : List Ev} (ho : s'.out = s.out)
    (he : expEvents s'.expect = expEvents s.expect ++ l) : cnt x (hist s') = cnt x (hist s) + cnt x l := by
  simp only [hist, ho, he, cnt_append, Nat.add_assoc]

theorem rl_tx {c : SCfg} {s : SState} {e x : Ev} (hx : isRunEv x) (hf : fails c s (.tx e) = []) :
    cnt x (hist (stepD c s (.tx e))) = cnt x (hist s) := by
  cases e
  case scen k ret se =>
    have hne : x ≠ .scen k ret se := by rcases hx with rfl | rfl <;> simp
    simp [stepD, hist, cnt, Ne.symm hne]
  all_goals
    simp only [fails, miss_eq_nil, Option.isSome_iff_exists] at hf
    obtain ⟨rest, hr⟩ := hf
    have := (takeExp_perm _ _ _ hr).count_eq x
    simp only [stepD, hist, hr, Option.getD_some, cnt, count_append, count_cons, count_nil] at this ⊢
    omega

/-- owing or sending bracket events changes no run-level count; run-`Started` is owed when the hook is taken,
    run-`Finished` when the exit is taken -/
theorem rinv_step (c : SCfg) (s : SState) (l : Label) (h : RInv s) (hd : (stepL c s l).dis = []) :
    RInv (stepL c s l) := by
  obtain ⟨-, hf, e⟩ := clean_step hd
  rw [e]
  have keep : ∀ {s' : SState} {l : List Ev}, s'.out = s.out → expEvents s'.expect = expEvents s.expect ++ l →
      (∀ x, isRunEv x → cnt x l = 0) → pc s'.phase = pc s.phase → RInv s' := by
    intro s' l ho he hl hp
    unfold RInv
    rw [cnt_hist_owe s s' ho he, cnt_hist_owe s s' ho he, hp, hl _ (Or.inl rfl), hl _ (Or.inr rfl)]
    exact h
  have move : ∀ {s' : SState}, s'.out = s.out → s'.expect = s.expect → pc s'.phase = pc s.phase → RInv s' :=
    fun ho he hp => keep (l := []) ho (by rw [he, append_nil]) (fun _ _ => rfl) hp
  cases l
  case tx e => exact ⟨(rl_tx (Or.inl rfl) hf).trans h.1, (rl_tx (Or.inr rfl) hf).trans h.2⟩
  case notif i failed retried =>
    rcases hn : s.notifs with _ | ⟨⟨nid, k, f', r'⟩, rest⟩ <;> simp [fails, hn] at hf
    obtain ⟨⟨br', evs⟩, hsf⟩ := Option.isSome_iff_exists.mp hf.2.2.2
    exact keep (l := evs) rfl (by simp [stepD, hn, notifFin, hsf, expEvents_map_one, expEvents_empty _ hf.2.2.1])
      (fun x hx => cnt_brackets x hx _ (scenarioFinished_isBr _ _ _ _ _ _ _ hsf)) rfl
  all_goals simp [fails] at hf
  case hookTake =>
    have he : expEvents (stepD c s .hookTake).expect = expEvents s.expect ++ [.started] := by
      simp [stepD, expEvents_append, expEvents]
    unfold RInv
    rw [cnt_hist_owe s (stepD c s .hookTake) rfl he, cnt_hist_owe s (stepD c s .hookTake) rfl he, h.1, h.2, hf]
    simp [stepD, pc, cnt]
  case idle fin sleep =>
    cases fin
    · exact move rfl rfl (by rw [hf.1]; rfl)
    · have he : expEvents (stepD c s (.idle true sleep)).expect =
          expEvents s.expect ++ ((finishAll s.br).1 ++ (finishAll s.br).2 ++ [.finished]) := by
        simp [stepD, expEvents_append, expEvents]
      have hb := finishAll_isBr s.br
      unfold RInv
      rw [cnt_hist_owe s (stepD c s (.idle true sleep)) rfl he, cnt_hist_owe s (stepD c s (.idle true sleep)) rfl he,
        h.1, h.2, hf.1]
      simp only [cnt_append, cnt_brackets _ (Or.inl rfl) _ hb.1, cnt_brackets _ (Or.inl rfl) _ hb.2,
        cnt_brackets _ (Or.inr rfl) _ hb.1, cnt_brackets _ (Or.inr rfl) _ hb.2]
      simp [stepD, pc, cnt]
  case hookRestore =>
    exact keep (l := []) rfl (by simp [stepD, expEvents, expEvents_empty _ hf.2.1]) (fun _ _ => rfl) rfl
  case exit => exact move rfl rfl (by rw [hf.1]; rfl)
  case pErr =>
    exact keep (l := [.parseErr s.nextPE]) rfl (by simp [stepD, expEvents_append, expEvents])
      (fun x hx => by rcases hx with rfl | rfl <;> rfl) rfl
  case pEnd =>
    exact keep (l := [.parsingFinished s.cFeatures s.cRules s.cScenarios s.cSteps s.cErrors]) rfl
      (by simp [stepD, expEvents_append, expEvents]) (fun x hx => by rcases hx with rfl | rfl <;> rfl) rfl
  case get1 => exact move rfl rfl (by rcases hf.1 with hp | hp <;> (rw [hp]; rfl))
  case get2 t2 slots got sleep running =>
    refine keep rfl (by simp [stepD, expEvents_map_one, expEvents_empty _ hf.2.1])
      (fun x hx => cnt_brackets x hx _ (startScenarios_isBr s.br (get2Out s t2 slots got).1)) ?_
    cases hp : s.phase <;> simp [get2Early, hp] at hf <;> rfl
  case idleYield => exact move rfl rfl (by rw [hf.1]; rfl)
  case idleSlept => exact move rfl rfl (by rw [hf.1]; rfl)
  case idleContinue => exact move rfl rfl (by rcases hf.1 with hp | hp <;> (rw [hp]; rfl))
  case disp =>
    exact keep (l := []) rfl (by simp [stepD, expEvents, expEvents_empty _ hf.2.1]) (fun _ _ => rfl) (by rw [hf.1]; rfl)
  case cons => exact move rfl rfl (by rw [hf.1]; rfl)
  all_goals exact move rfl rfl rfl

theorem rinv_accept (c : SCfg) (ls : List Label) (hc : Clean0 (accept c ls) = true) : RInv (accept c ls) :=
  clean0_accept c (fun _ => RInv) rinv_init (fun _ s l => rinv_step c s l) ls hc

end Cuke.SchedRunLevel
