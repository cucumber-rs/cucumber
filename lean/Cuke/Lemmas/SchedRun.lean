import Cuke.Lemmas.SchedStep
/-!
  Whole runs of the acceptor that are replayed without any disagreement (`Clean0`): such a run is a sequence of steps
  `stepD` whose checks all passed (`SchedStep.clean_step`), so an invariant of those steps — which may speak of the log
  replayed so far — holds at its end (`clean0_log`). The invariants of C02–C05, C08 and C10 over whole runs are instances.
  For runs that are clean of some classes only, see `SchedStep.all_cls_foldl` / `foldl_inv`.
-/
namespace Cuke.SchedOrd
open Cuke List Cuke.SchedStep

def Clean0 (s : SState) : Bool := s.dis.isEmpty

theorem clean0_iff {s : SState} : Clean0 s = true ↔ s.dis = [] := isEmpty_iff

theorem clean0_eq (s : SState) : Clean0 s = s.dis.all (fun d => (fun _ => false) d.cls) := by
  unfold Clean0
  cases s.dis <;> rfl

theorem clean0_step_mono (c : SCfg) (s : SState) (l : Label) (h : Clean0 (stepL c s l) = true) : Clean0 s = true :=
  clean0_iff.mpr (clean_step (clean0_iff.mp h)).1

theorem accept_append (c : SCfg) (pre post : List Label) :
    accept c (pre ++ post) = post.foldl (stepL c) (accept c pre) := foldl_append

theorem accept_snoc (c : SCfg) (pre : List Label) (l : Label) : accept c (pre ++ [l]) = stepL c (accept c pre) l :=
  foldl_append

theorem clean0_foldl_mono (c : SCfg) (ls : List Label) (s : SState) (h : Clean0 (ls.foldl (stepL c) s) = true) :
    Clean0 s = true := by
  rw [clean0_eq] at h ⊢
  exact all_cls_foldl (fun _ => false) c ls s h

/-- `Inv pre s`: an invariant of the log replayed so far and the state it led to -/
theorem clean0_log (c : SCfg) (Inv : List Label → SState → Prop)
    (step : ∀ pre s l, Inv pre s → (stepL c s l).dis = [] → Inv (pre ++ [l]) (stepL c s l)) :
    ∀ (ls pre : List Label) (s : SState), Inv pre s → Clean0 (ls.foldl (stepL c) s) = true →
      Inv (pre ++ ls) (ls.foldl (stepL c) s) := fun ls pre s h hc =>
  foldl_ghost_log (stepL c) ls pre s ▸
    foldl_ghost_inv (stepL c) (fun _ pre l => pre ++ [l]) (fun s => Clean0 s = true) (clean0_step_mono c)
      (fun s pre => Inv pre s) (fun s pre l h hc => step pre s l h (clean0_iff.mp hc)) ls s pre h hc

/-- … and what each clean step shows of its own label (`Q`) holds of every label of the log -/
theorem clean0_run (c : SCfg) (Inv : SState → Prop) (Q : Label → Prop)
    (step : ∀ s l, Inv s → (stepL c s l).dis = [] → Inv (stepL c s l) ∧ Q l)
    (ls : List Label) (s : SState) (h : Inv s) (hc : Clean0 (ls.foldl (stepL c) s) = true) :
    Inv (ls.foldl (stepL c) s) ∧ ∀ l ∈ ls, Q l :=
  clean0_log c (fun pre s => Inv s ∧ ∀ l ∈ pre, Q l)
    (fun _ s l h hd => ⟨(step s l h.1 hd).1, fun l' hm => (mem_append.mp hm).elim (h.2 l')
      fun hm => mem_singleton.mp hm ▸ (step s l h.1 hd).2⟩) ls [] s ⟨h, nofun⟩ hc

theorem clean0_accept (c : SCfg) (Inv : List Label → SState → Prop) (init : Inv [] {})
    (step : ∀ pre s l, Inv pre s → (stepL c s l).dis = [] → Inv (pre ++ [l]) (stepL c s l))
    (ls : List Label) (hc : Clean0 (accept c ls) = true) : Inv ls (accept c ls) :=
  clean0_log c Inv step ls [] {} init hc

/-- a scenario event is only accepted from an attempt in flight: same scenario, same retry counter -/
theorem tx_scen_clean {c : SCfg} {s : SState} {k : ScenKey} {ret : Option Retries} {se : ScenEv}
    (hc : Clean0 (stepL c s (.tx (.scen k ret se))) = true) : ∃ e ∈ s.running, e.key = k ∧ e.ret.map (·.retries) = ret := by
  have hf := (clean_step (clean0_iff.mp hc)).2.1
  simp only [fails, miss_eq_nil, findRunning, Option.isSome_iff_exists] at hf
  obtain ⟨e, he⟩ := hf
  have hp := find?_some he
  simp only [Bool.and_eq_true, beq_iff_eq] at hp
  exact ⟨e, mem_of_find?_eq_some he, hp⟩

end Cuke.SchedOrd
