import Cuke.Model.Sched
/-!
  The bracket bookkeeping of the runner (`FinishedRulesAndFeatures`: `start_scenarios`,
  `rule_scenario_finished` / `feature_scenario_finished`, `finish_all_rules_and_features`) as a LEDGER:
  for every feature (rule), #Started = #Finished + [it is still in the map] — for every sequence of
  dispatches and drained completions whatsoever (C03).
-/
namespace Cuke.BrL
open Cuke List

def keysF (b : Brackets) : List Nat := b.feats.map (·.1)

def cnt (e : Ev) (evs : List Ev) : Nat := evs.count e

/-! Features and rules keep the same books: `st k` / `fi k` are the Started / Finished event of key `k`, `ks` the open keys. -/

def Ledger {α : Type} (st fi : α → Ev) (ks : List α) (evs : List Ev) : Prop :=
  ks.Nodup ∧ ∀ k, (k ∈ ks → cnt (st k) evs = cnt (fi k) evs + 1) ∧ (k ∉ ks → cnt (st k) evs = cnt (fi k) evs)

def FeatLedger (b : Brackets) (evs : List Ev) : Prop :=
  (keysF b).Nodup ∧ ∀ f, (f ∈ keysF b → cnt (.featStarted f) evs = cnt (.featFinished f) evs + 1) ∧
    (f ∉ keysF b → cnt (.featStarted f) evs = cnt (.featFinished f) evs)

/-- the feature part / the rule part of `start_scenarios` -/
def addFeats {α} [BEq α] (fs : List α) (acc : List (α × Nat) × List α) : List (α × Nat) × List α :=
  fs.foldl (fun (acc : List (α × Nat) × List α) f =>
    if acc.1.any (fun e => e.1 == f) then acc else (acc.1 ++ [(f, 0)], acc.2 ++ [f])) acc

theorem addFeats_cons {α} [BEq α] (f : α) (fs : List α) (acc : List (α × Nat) × List α) :
    addFeats (f :: fs) acc =
      addFeats fs (if acc.1.any (fun e => e.1 == f) then acc else (acc.1 ++ [(f, 0)], acc.2 ++ [f])) := rfl

theorem addFeats_spec {α} [BEq α] [LawfulBEq α] (fs : List α) (feats : List (α × Nat)) (new : List α)
    (hnd : (feats.map (fun (e : α × Nat) => e.1)).Nodup) :
    ((addFeats fs (feats, new)).1.map (fun (e : α × Nat) => e.1)).Nodup ∧
    ∃ added : List α, (addFeats fs (feats, new)).2 = new ++ added ∧ added.Nodup ∧
      (∀ f ∈ added, f ∉ feats.map (fun (e : α × Nat) => e.1)) ∧
      (addFeats fs (feats, new)).1.map (fun (e : α × Nat) => e.1) = feats.map (fun (e : α × Nat) => e.1) ++ added := by
  induction fs generalizing feats new with
  | nil => exact ⟨hnd, [], by simp [addFeats], by simp, by simp, by simp [addFeats]⟩
  | cons f rest ih =>
    rw [addFeats_cons]
    by_cases hin : feats.any (fun e => e.1 == f) = true
    · rw [if_pos hin]
      exact ih feats new hnd
    · rw [if_neg hin]
      have hnot : f ∉ feats.map (fun (e : α × Nat) => e.1) := fun hm => by
        obtain ⟨x, hx, heq⟩ := mem_map.mp hm
        exact hin (any_eq_true.mpr ⟨x, hx, by simp [heq]⟩)
      have hnd' : ((feats ++ [(f, 0)]).map (fun (e : α × Nat) => e.1)).Nodup := by
        rw [map_append]
        exact nodup_append.mpr ⟨hnd, by simp, fun a ha b hb hab => hnot (by rw [hab, mem_singleton.mp hb] at ha; exact ha)⟩
      obtain ⟨h1, added, h2, h3, h4, h5⟩ := ih (feats ++ [(f, 0)]) (new ++ [f]) hnd'
      refine ⟨h1, f :: added, by rw [h2]; simp, nodup_cons.mpr ⟨fun hm => h4 f hm (by simp), h3⟩, fun x hx => ?_,
        by rw [h5]; simp⟩
      rcases mem_cons.mp hx with rfl | hx
      · exact hnot
      · exact fun hm => h4 x hx (by simp [hm])

def batchFeats (batch : List Entry) : List Nat := dedupAdj (batch.map (·.key.feat))

def batchRules (batch : List Entry) : List (Nat × Nat) :=
  dedupAdj (batch.filterMap (fun e => e.key.rule.map (fun r => (e.key.feat, r))))

def keysR (b : Brackets) : List (Nat × Nat) := b.rules.map (·.1)

def RuleLedger (b : Brackets) (evs : List Ev) : Prop :=
  (keysR b).Nodup ∧ ∀ f r, ((f, r) ∈ keysR b → cnt (.ruleStarted f r) evs = cnt (.ruleFinished f r) evs + 1) ∧
    ((f, r) ∉ keysR b → cnt (.ruleStarted f r) evs = cnt (.ruleFinished f r) evs)

theorem startScenarios_parts (b : Brackets) (batch : List Entry) :
    (startScenarios b batch).1.feats = (addFeats (batchFeats batch) (b.feats, [])).1 ∧
    (startScenarios b batch).1.rules = (addFeats (batchRules batch) (b.rules, [])).1 ∧
    (startScenarios b batch).2 = (addFeats (batchFeats batch) (b.feats, [])).2.map Ev.featStarted ++
      (addFeats (batchRules batch) (b.rules, [])).2.map (fun fr => Ev.ruleStarted fr.1 fr.2) := ⟨rfl, rfl, rfl⟩

theorem cnt_append (e : Ev) (a b : List Ev) : cnt e (a ++ b) = cnt e a + cnt e b := by simp [cnt]

theorem cnt_zero_of_not_mem (e : Ev) (l : List Ev) (h : e ∉ l) : cnt e l = 0 := by
  simp [cnt, count_eq_zero, h]

theorem cnt_map_inj {α} [DecidableEq α] (g : α → Ev) (hg : ∀ a b, g a = g b → a = b) (x : α) (l : List α)
    (hnd : l.Nodup) : (x ∈ l → cnt (g x) (l.map g) = 1) ∧ (x ∉ l → cnt (g x) (l.map g) = 0) := by
  have hc : cnt (g x) (l.map g) = l.count x := by
    simp only [cnt, count, countP_map]
    exact countP_congr fun a _ => by simpa using ⟨hg a x, fun h => h ▸ rfl⟩
  rw [hc, hnd.count]
  exact ⟨fun h => by simp [h], fun h => by simp [h]⟩

structure Fam {α : Type} (st fi : α → Ev) : Prop where
  st_inj : ∀ a b, st a = st b → a = b
  fi_inj : ∀ a b, fi a = fi b → a = b
  ne : ∀ a b, st a ≠ fi b

def rSt (fr : Nat × Nat) : Ev := .ruleStarted fr.1 fr.2
def rFi (fr : Nat × Nat) : Ev := .ruleFinished fr.1 fr.2

theorem featFam : Fam Ev.featStarted Ev.featFinished :=
  ⟨fun _ _ h => Ev.featStarted.inj h, fun _ _ h => Ev.featFinished.inj h, fun _ _ => nofun⟩

theorem ruleFam : Fam rSt rFi :=
  ⟨fun a b h => by cases a; cases b; simp_all [rSt], fun a b h => by cases a; cases b; simp_all [rFi], fun _ _ => nofun⟩

/-- for features the same holds by definition: `FeatLedger b evs` is `Ledger Ev.featStarted Ev.featFinished (keysF b) evs` -/
theorem ruleLedger_iff {b : Brackets} {evs : List Ev} : RuleLedger b evs ↔ Ledger rSt rFi (keysR b) evs :=
  ⟨fun h => ⟨h.1, fun fr => h.2 fr.1 fr.2⟩, fun h => ⟨h.1, fun f r => h.2 (f, r)⟩⟩

theorem keys_update {α} [BEq α] (l : List (α × Nat)) (x : α) (c : Nat) :
    (l.map (fun e => if e.1 == x then (e.1, c + 1) else e)).map (fun (e : α × Nat) => e.1) = l.map (fun (e : α × Nat) => e.1) := by
  induction l with
  | nil => rfl
  | cons a rest ih => simp only [map_cons, ih]; split <;> rfl

theorem keys_remove {α} [BEq α] [LawfulBEq α] (l : List (α × Nat)) (x : α) :
    (l.filter (fun e => !(e.1 == x))).map (fun (e : α × Nat) => e.1) = (l.map (fun (e : α × Nat) => e.1)).filter (fun y => !(y == x)) := by
  induction l with
  | nil => rfl
  | cons a rest ih =>
    simp only [filter_cons, map_cons]
    split <;> simp [ih]

theorem find_mem_keys {α} [BEq α] [LawfulBEq α] (l : List (α × Nat)) (x : α) (v : α × Nat)
    (h : l.find? (fun e => e.1 == x) = some v) : x ∈ l.map (fun (e : α × Nat) => e.1) := by
  have hm := mem_of_find?_eq_some h
  have hk : v.1 = x := by simpa using find?_some h
  exact mem_map.mpr ⟨v, hm, hk⟩

theorem mem_filter_ne {α} [BEq α] [LawfulBEq α] (l : List α) (x y : α) : y ∈ l.filter (fun z => !(z == x)) ↔ y ∈ l ∧ y ≠ x := by
  simp [mem_filter]

theorem cnt_single_ne (e e' : Ev) (h : e ≠ e') : cnt e [e'] = 0 := cnt_zero_of_not_mem _ _ (by simp [h])
theorem cnt_single_eq (e : Ev) : cnt e [e] = 1 := by simp [cnt]

section
variable {α : Type} {st fi : α → Ev} {ks : List α} {evs : List Ev}

theorem Ledger.congr {evs' : List Ev} (h : Ledger st fi ks evs)
    (hc : ∀ k, cnt (st k) evs = cnt (st k) evs' ∧ cnt (fi k) evs = cnt (fi k) evs') : Ledger st fi ks evs' :=
  ⟨h.1, fun k => (hc k).1 ▸ (hc k).2 ▸ h.2 k⟩

theorem Ledger.frame (h : Ledger st fi ks evs) {ex : List Ev} (hz : ∀ k, st k ∉ ex ∧ fi k ∉ ex) :
    Ledger st fi ks (evs ++ ex) := by
  refine ⟨h.1, fun k => ?_⟩
  simp only [cnt_append, cnt_zero_of_not_mem _ _ (hz k).1, cnt_zero_of_not_mem _ _ (hz k).2, Nat.add_zero]
  exact h.2 k

theorem Ledger.opened [DecidableEq α] (hf : Fam st fi) (h : Ledger st fi ks evs) {added : List α} (hnd : added.Nodup)
    (hdis : ∀ k ∈ added, k ∉ ks) : Ledger st fi (ks ++ added) (evs ++ added.map st) := by
  refine ⟨nodup_append.mpr ⟨h.1, hnd, fun a ha b hb hab => hdis b hb (hab ▸ ha)⟩, fun k => ?_⟩
  obtain ⟨c1, c2⟩ := cnt_map_inj st hf.st_inj k added hnd
  have z : cnt (fi k) (added.map st) = 0 := cnt_zero_of_not_mem _ _ fun hm => by
    obtain ⟨a, -, ha⟩ := mem_map.mp hm
    exact hf.ne a k ha
  obtain ⟨l1, l2⟩ := h.2 k
  simp only [cnt_append, z, mem_append, Nat.add_zero]
  refine ⟨fun hk => ?_, fun hk => ?_⟩
  · rcases hk with hk | hk
    · rw [l1 hk, c2 fun hm => hdis k hm hk]
    · rw [l2 (hdis k hk), c1 hk]
  · rw [l2 fun hm => hk (Or.inl hm), c2 fun hm => hk (Or.inr hm), Nat.add_zero]

theorem Ledger.closed [BEq α] [LawfulBEq α] (hf : Fam st fi) {tbl : List (α × Nat)} (h : Ledger st fi (tbl.map (·.1)) evs) {k0 : α}
    (hk0 : k0 ∈ tbl.map (·.1)) :
    Ledger st fi ((tbl.filter (fun e => !(e.1 == k0))).map (·.1)) (evs ++ [fi k0]) := by
  rw [keys_remove]
  refine ⟨h.1.filter _, fun k => ?_⟩
  obtain ⟨l1, l2⟩ := h.2 k
  have z : cnt (st k) [fi k0] = 0 := cnt_single_ne _ _ (hf.ne k k0)
  simp only [cnt_append, z, mem_filter_ne, Nat.add_zero]
  by_cases hk : k = k0
  · subst hk
    refine ⟨fun hm => absurd rfl hm.2, fun _ => ?_⟩
    rw [l1 hk0, cnt_single_eq]
  · rw [cnt_single_ne _ _ fun he => hk (hf.fi_inj _ _ he)]
    exact ⟨fun hm => l1 hm.1, fun hm => l2 fun hk' => hm ⟨hk', hk⟩⟩

theorem Ledger.balanced [DecidableEq α] (hf : Fam st fi) (h : Ledger st fi ks evs) (k : α) :
    cnt (st k) (evs ++ ks.map fi) = cnt (fi k) (evs ++ ks.map fi) := by
  obtain ⟨c1, c2⟩ := cnt_map_inj fi hf.fi_inj k ks h.1
  have z : cnt (st k) (ks.map fi) = 0 := cnt_zero_of_not_mem _ _ fun hm => by
    obtain ⟨a, -, ha⟩ := mem_map.mp hm
    exact hf.ne k a ha.symm
  rw [cnt_append, cnt_append, z]
  by_cases hm : k ∈ ks
  · rw [(h.2 k).1 hm, c1 hm]
  · rw [(h.2 k).2 hm, c2 hm]

end

theorem startScenarios_ledgers (b : Brackets) (batch : List Entry) (evs : List Ev)
    (hF : FeatLedger b evs) (hR : RuleLedger b evs) :
    FeatLedger (startScenarios b batch).1 (evs ++ (startScenarios b batch).2) ∧
    RuleLedger (startScenarios b batch).1 (evs ++ (startScenarios b batch).2) := by
  obtain ⟨hf, hr, hev⟩ := startScenarios_parts b batch
  obtain ⟨-, addedF, f2, f3, f4, f5⟩ := addFeats_spec (batchFeats batch) b.feats [] hF.1
  obtain ⟨-, addedR, r2, r3, r4, r5⟩ := addFeats_spec (batchRules batch) b.rules [] hR.1
  have hkF : keysF (startScenarios b batch).1 = keysF b ++ addedF := by rw [keysF, hf, f5]; rfl
  have hkR : keysR (startScenarios b batch).1 = keysR b ++ addedR := by rw [keysR, hr, r5]; rfl
  rw [hev, f2, r2, nil_append, nil_append, ← append_assoc, ruleLedger_iff, hkR]
  constructor
  · show Ledger Ev.featStarted Ev.featFinished _ _
    rw [hkF]
    exact (Ledger.opened featFam hF f3 f4).frame fun f => ⟨by simp, by simp⟩
  · exact ((ruleLedger_iff.mp hR).frame fun fr => ⟨by simp [rSt], by simp [rFi]⟩).opened ruleFam r3 r4

theorem scenarioFinished_spec {b b' : Brackets} {k : ScenKey} {nR nF : Nat} {evs : List Ev}
    (h : scenarioFinished b k false nR nF = some (b', evs)) :
    (∃ e, b.feats.find? (fun x => x.1 == k.feat) = some e ∧
      if nF = e.2 + 1 then b'.feats = b.feats.filter (fun x => !(x.1 == k.feat)) ∧ Ev.featFinished k.feat ∈ evs
      else b'.feats = b.feats.map (fun x => if x.1 == k.feat then (x.1, e.2 + 1) else x)) ∧
    (match k.rule with
      | none => b'.rules = b.rules
      | some ru => ∃ e, b.rules.find? (fun x => x.1 == (k.feat, ru)) = some e ∧
          if nR = e.2 + 1 then b'.rules = b.rules.filter (fun x => !(x.1 == (k.feat, ru))) ∧ Ev.ruleFinished k.feat ru ∈ evs
          else b'.rules = b.rules.map (fun x => if x.1 == (k.feat, ru) then (x.1, e.2 + 1) else x)) ∧
    ∀ x ∈ evs, x = Ev.featFinished k.feat ∨ ∃ ru, x = Ev.ruleFinished k.feat ru := by
  unfold scenarioFinished at h
  simp only [Bool.false_eq_true, if_false] at h
  cases hfd : b.feats.find? (fun e => e.1 == k.feat) with
  | none =>
    rw [hfd] at h
    split at h <;> cases h
  | some ef =>
    rw [hfd] at h
    cases hk : k.rule with
    | none =>
      simp only [hk, beq_iff_eq] at h ⊢
      refine ⟨⟨ef, rfl, ?_⟩, ?_⟩
      all_goals split at h <;> rename_i hc <;> obtain ⟨rfl, rfl⟩ := Prod.mk.inj (Option.some.inj h) <;> simp [hc]
    | some ru =>
      simp only [hk] at h ⊢
      cases hfr : b.rules.find? (fun e => e.1 == (k.feat, ru)) with
      | none => simp [hfr] at h
      | some er =>
        refine ⟨⟨ef, rfl, ?_⟩, ⟨er, rfl, ?_⟩, ?_⟩
        all_goals
          cases hb2 : nR == er.2 + 1 <;> cases hb : nF == ef.2 + 1 <;>
          simp only [hfr, hb2, hb, if_true, Bool.false_eq_true, if_false] at h <;>
          obtain ⟨rfl, rfl⟩ := Prod.mk.inj (Option.some.inj h) <;>
          simp_all

theorem scenarioFinished_ledgers (b b' : Brackets) (k : ScenKey) (retried : Bool) (nRule nFeat : Nat) (evs evs' : List Ev)
    (hF : FeatLedger b evs) (hR : RuleLedger b evs)
    (hs : scenarioFinished b k retried nRule nFeat = some (b', evs')) :
    FeatLedger b' (evs ++ evs') ∧ RuleLedger b' (evs ++ evs') := by
  unfold scenarioFinished at hs
  cases retried with
  | true =>
    simp only [if_true, Option.some.injEq, Prod.mk.injEq] at hs
    obtain ⟨rfl, rfl⟩ := hs
    simpa using ⟨hF, hR⟩
  | false =>
    simp only [Bool.false_eq_true, if_false] at hs
    have hR := ruleLedger_iff.mp hR
    rw [ruleLedger_iff]
    change Ledger Ev.featStarted Ev.featFinished (b.feats.map (·.1)) evs at hF
    show Ledger Ev.featStarted Ev.featFinished (b'.feats.map (·.1)) _ ∧ Ledger rSt rFi (b'.rules.map (·.1)) _
    unfold keysR at hR
    cases hfd : b.feats.find? (fun e => e.1 == k.feat) with
    | none =>
      rw [hfd] at hs
      split at hs <;> cases hs
    | some ef =>
      rw [hfd] at hs
      have hkf := find_mem_keys _ _ _ hfd
      cases hk : k.rule with
      | none =>
        simp only [hk] at hs
        cases hb : nFeat == ef.2 + 1 <;> simp only [hb, if_true, Bool.false_eq_true, if_false] at hs <;>
          obtain ⟨rfl, rfl⟩ := Prod.mk.inj (Option.some.inj hs)
        · simpa only [append_nil, keys_update] using And.intro hF hR
        · exact ⟨hF.closed featFam hkf, hR.frame fun fr => ⟨by simp [rSt], by simp [rFi]⟩⟩
      | some ru =>
        simp only [hk] at hs
        cases hfr : b.rules.find? (fun e => e.1 == (k.feat, ru)) with
        | none => simp [hfr] at hs
        | some er =>
          have hkr := find_mem_keys _ _ _ hfr
          have hcl := hR.closed ruleFam hkr
          cases hb2 : nRule == er.2 + 1 <;> cases hb : nFeat == ef.2 + 1 <;>
            simp only [hfr, hb2, hb, if_true, Bool.false_eq_true, if_false] at hs <;>
            obtain ⟨rfl, rfl⟩ := Prod.mk.inj (Option.some.inj hs)
          · simpa only [append_nil, keys_update] using And.intro hF hR
          · exact ⟨hF.closed featFam hkf, by
              simpa only [keys_update] using hR.frame fun fr => ⟨by simp [rSt], by simp [rFi]⟩⟩
          · exact ⟨by simpa only [keys_update] using hF.frame fun f => ⟨by simp, by simp⟩, hcl⟩
          · rw [← append_assoc]
            exact ⟨(hF.frame fun f => ⟨by simp, by simp⟩).closed featFam hkf, hcl.frame fun fr => ⟨by simp [rSt], by simp [rFi]⟩⟩

/-- what `execute` does to the bracket bookkeeping: a dispatched batch, or a drained completion -/
inductive BOp where
  | start (batch : List Entry)
  | fin (k : ScenKey) (retried : Bool) (nRule nFeat : Nat)

def brStep (b : Brackets) : BOp → Option (Brackets × List Ev)
  | .start batch => some (startScenarios b batch)
  | .fin k retried nRule nFeat => scenarioFinished b k retried nRule nFeat

def brRun : Brackets → List BOp → Option (Brackets × List Ev)
  | b, [] => some (b, [])
  | b, op :: ops =>
    match brStep b op with
    | none => none
    | some (b1, e1) =>
      match brRun b1 ops with
      | none => none
      | some (b2, e2) => some (b2, e1 ++ e2)

theorem brRun_ledgers (b b' : Brackets) (ops : List BOp) (evs out : List Ev)
    (hF : FeatLedger b evs) (hR : RuleLedger b evs) (h : brRun b ops = some (b', out)) :
    FeatLedger b' (evs ++ out) ∧ RuleLedger b' (evs ++ out) := by
  induction ops generalizing b evs out with
  | nil =>
    simp only [brRun, Option.some.injEq, Prod.mk.injEq] at h
    obtain ⟨rfl, rfl⟩ := h
    simpa using ⟨hF, hR⟩
  | cons op ops ih =>
    simp only [brRun] at h
    cases hs : brStep b op with
    | none => simp [hs] at h
    | some r1 =>
      obtain ⟨b1, e1⟩ := r1
      simp only [hs] at h
      cases hr : brRun b1 ops with
      | none => simp [hr] at h
      | some r2 =>
        obtain ⟨b2, e2⟩ := r2
        simp only [hr, Option.some.injEq, Prod.mk.injEq] at h
        obtain ⟨rfl, rfl⟩ := h
        have hstep : FeatLedger b1 (evs ++ e1) ∧ RuleLedger b1 (evs ++ e1) := by
          cases op with
          | start batch =>
            simp only [brStep, Option.some.injEq] at hs
            have := startScenarios_ledgers b batch evs hF hR
            rw [hs] at this
            exact this
          | fin k retried nRule nFeat =>
            exact scenarioFinished_ledgers b b1 k retried nRule nFeat evs e1 hF hR hs
        have := ih b1 (evs ++ e1) e2 hstep.1 hstep.2 hr
        simpa [append_assoc] using this

theorem finishAll_eq (b : Brackets) :
    (finishAll b).1 = (keysR b).map (fun fr => Ev.ruleFinished fr.1 fr.2) ∧ (finishAll b).2 = (keysF b).map Ev.featFinished := by
  simp [finishAll, keysR, keysF]

theorem finishAll_balances (b : Brackets) (evs : List Ev) (hF : FeatLedger b evs) (hR : RuleLedger b evs) :
    (∀ f, cnt (.featStarted f) (evs ++ (finishAll b).1 ++ (finishAll b).2) = cnt (.featFinished f) (evs ++ (finishAll b).1 ++ (finishAll b).2)) ∧
    (∀ f r, cnt (.ruleStarted f r) (evs ++ (finishAll b).1 ++ (finishAll b).2) = cnt (.ruleFinished f r) (evs ++ (finishAll b).1 ++ (finishAll b).2)) := by
  obtain ⟨e1, e2⟩ := finishAll_eq b
  rw [e1, e2]
  refine ⟨fun f => ?_, fun f r => ?_⟩
  · exact (Ledger.frame hF fun f => ⟨by simp, by simp⟩).balanced featFam f
  · have := (ruleLedger_iff.mp hR).balanced ruleFam (f, r)
    rw [cnt_append, cnt_append (.ruleFinished f r), cnt_zero_of_not_mem _ (map _ _) (by simp),
      cnt_zero_of_not_mem (.ruleFinished f r) (map _ _) (by simp)]
    exact this

end Cuke.BrL
