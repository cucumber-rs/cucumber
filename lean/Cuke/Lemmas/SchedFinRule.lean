import Cuke.Lemmas.SchedFin
/-!
  C03, the same ORDER clause for RULES: **a rule is finished only after the last event of its scenarios (retries
  included).** The counting invariant of Lemmas/SchedFin.lean for the grouping by (feature, rule):

      finished scenarios counted for the rule  +  its scenarios that are waiting or in flight
                                               +  its final notifications still to be drained  =  its scenarios
-/
namespace Cuke.SchedFinR
open Cuke List Cuke.SchedL Cuke.SchedInv Cuke.SchedRetry Cuke.SchedCons Cuke.SchedOrd Cuke.SchedSeq Cuke.SchedFin

/-- the scenarios of rule `r` of a feature (the rule `nRule` looks at: the first one with that id) -/
def ruleScenIds (ft : SFeat) (r : Nat) : List Nat :=
  ((ft.rules.find? (fun x => x.id == r)).map (fun ru => ru.scens.map (·.id))).getD []

/-- well-formed rules: rule ids are distinct inside a feature; a scenario id belongs to one place only -/
structure WFR (c : SCfg) : Prop where
  ruleIds : ∀ ft ∈ c.feats, ∀ ru ∈ ft.rules, ∀ ru' ∈ ft.rules, ru.id = ru'.id → ru = ru'
  ruleNodup : ∀ ft ∈ c.feats, ∀ ru ∈ ft.rules, (ru.scens.map (·.id)).Nodup
  ruleDisj : ∀ ft ∈ c.feats, ∀ ru ∈ ft.rules, ∀ ru' ∈ ft.rules, ∀ x, x ∈ ru.scens.map (·.id) → x ∈ ru'.scens.map (·.id) → ru = ru'
  topDisj : ∀ ft ∈ c.feats, ∀ ru ∈ ft.rules, ∀ x, x ∈ ft.scens.map (·.id) → x ∉ ru.scens.map (·.id)

theorem WFR.single {c : SCfg} {ft : SFeat} {ru : SRule} (hc : c.feats = [ft]) (hru : ft.rules = [ru])
    (hnd : (ru.scens.map (·.id)).Nodup) (htop : ∀ x ∈ ft.scens.map (·.id), x ∉ ru.scens.map (·.id)) : WFR c := by
  have h1 : ∀ a ∈ c.feats, ∀ r ∈ a.rules, a = ft ∧ r = ru := fun a ha r hr => by
    obtain rfl : a = ft := mem_singleton.mp (hc ▸ ha)
    exact ⟨rfl, mem_singleton.mp (hru ▸ hr)⟩
  refine ⟨fun a ha r hr r' hr' _ => ?_, fun a ha r hr => ?_, fun a ha r hr r' hr' _ _ _ => ?_, fun a ha r hr x hx => ?_⟩
  · rw [(h1 a ha r hr).2, (h1 a ha r' hr').2]
  · rw [(h1 a ha r hr).2]
    exact hnd
  · rw [(h1 a ha r hr).2, (h1 a ha r' hr').2]
  · obtain ⟨rfl, rfl⟩ := h1 a ha r hr
    exact htop x hx

/-- the rule whose last scenario the next drained notification counts -/
def closesR (c : SCfg) (s : SState) : Option (Nat × Nat) :=
  match s.notifs with
  | (_, k, _, r) :: _ =>
    if r then none else
    match k.rule with
    | none => none
    | some ru =>
      match s.br.rules.find? (fun e => e.1 == (k.feat, ru)) with
      | some e => if c.nRule k.feat ru == e.2 + 1 then some (k.feat, ru) else none
      | none => none
  | [] => none

theorem ruleScenIds_spec (ft : SFeat) (r x : Nat) (hx : x ∈ ruleScenIds ft r) :
    ∃ ru ∈ ft.rules, ru.id = r ∧ x ∈ ru.scens.map (·.id) ∧ ruleScenIds ft r = ru.scens.map (·.id) := by
  unfold ruleScenIds at hx ⊢
  cases hfd : ft.rules.find? (fun x => x.id == r) with
  | none => simp [hfd] at hx
  | some ru =>
    simp only [hfd, Option.map_some, Option.getD_some] at hx ⊢
    have hid := find?_some hfd
    exact ⟨ru, mem_of_find?_eq_some hfd, by simpa using hid, hx, rfl⟩

theorem ruleScenIds_sub (ft : SFeat) (r x : Nat) (hx : x ∈ ruleScenIds ft r) : x ∈ scenIds ft := by
  obtain ⟨ru, hru, _, hxr, _⟩ := ruleScenIds_spec ft r x hx
  simp only [mem_map] at hxr
  obtain ⟨sc, hsc, rfl⟩ := hxr
  simp only [scenIds, featScenarios, mem_map, mem_append, mem_flatMap]
  exact ⟨(some ru, sc), Or.inr ⟨ru, hru, sc, hsc, rfl⟩, rfl⟩

theorem ruleScenIds_nodup (c : SCfg) (hwr : WFR c) (ft : SFeat) (hft : ft ∈ c.feats) (r : Nat) : (ruleScenIds ft r).Nodup := by
  unfold ruleScenIds
  cases hfd : ft.rules.find? (fun x => x.id == r) with
  | none => simp
  | some ru => simpa using hwr.ruleNodup ft hft ru (mem_of_find?_eq_some hfd)

theorem ruleScenIds_of_mem (c : SCfg) (hwr : WFR c) (ft : SFeat) (hft : ft ∈ c.feats) (ru : SRule) (hru : ru ∈ ft.rules) :
    ruleScenIds ft ru.id = ru.scens.map (·.id) := by
  unfold ruleScenIds
  cases hfd : ft.rules.find? (fun x => x.id == ru.id) with
  | none =>
    exfalso
    rw [find?_eq_none] at hfd
    exact hfd ru hru (by simp)
  | some ru' =>
    have hid := find?_some hfd
    have : ru' = ru := hwr.ruleIds ft hft ru' (mem_of_find?_eq_some hfd) ru hru (by simpa using hid)
    simp [this]

def ruleIds (c : SCfg) (fr : Nat × Nat) : List Nat := ((c.feat? fr.1).map (ruleScenIds · fr.2)).getD []

theorem mem_ruleIds {c : SCfg} {fr : Nat × Nat} {x : Nat} :
    x ∈ ruleIds c fr ↔ ∃ ft, c.feat? fr.1 = some ft ∧ x ∈ ruleScenIds ft fr.2 := by
  unfold ruleIds
  cases c.feat? fr.1 <;> simp

theorem nRule_eq (c : SCfg) (f r : Nat) : c.nRule f r = (ruleIds c (f, r)).length := by
  unfold SCfg.nRule ruleIds ruleScenIds
  cases c.feat? f with
  | none => rfl
  | some ft =>
    simp only [Option.map_some, Option.getD_some]
    cases ft.rules.find? (fun x => x.id == r) <;> simp

theorem ownerR (c : SCfg) (hwf : WF c) (hwr : WFR c) (s : SState) (hr : RInv c s) (e : Entry) (he : e ∈ ents s) :
    ∃ ft, c.feat? e.key.feat = some ft ∧ e.key.scen ∈ scenIds ft ∧
      (∀ r, e.key.rule = some r → e.key.scen ∈ ruleScenIds ft r) ∧
      (e.key.rule = none → ∀ r, e.key.scen ∉ ruleScenIds ft r) := by
  obtain ⟨ft0, hft0, hcan, rs, hrs, hk⟩ := origin c hwf s hr e he
  refine ⟨ft0, hcan, by rw [hk]; exact mem_map_of_mem hrs, ?_, ?_⟩
  · intro r hrule
    rw [hk] at hrule ⊢
    simp only [featScenarios, mem_append, mem_map, mem_flatMap] at hrs
    rcases hrs with ⟨sc, hsc, rfl⟩ | ⟨ru, hru, sc, hsc, rfl⟩
    · simp at hrule
    · simp only [Option.map_some, Option.some.injEq] at hrule
      rw [← hrule, ruleScenIds_of_mem c hwr ft0 hft0 ru hru]
      simp only [mem_map]
      exact ⟨sc, hsc, rfl⟩
  · intro hrule r hx
    rw [hk] at hrule hx
    simp only [featScenarios, mem_append, mem_map, mem_flatMap] at hrs
    rcases hrs with ⟨sc, hsc, rfl⟩ | ⟨ru, hru, sc, hsc, rfl⟩
    · obtain ⟨ru, hru, _, hxr, _⟩ := ruleScenIds_spec ft0 r _ hx
      exact hwr.topDisj ft0 hft0 ru hru _ (by simp only [mem_map]; exact ⟨sc, hsc, rfl⟩) hxr
    · simp at hrule

theorem rule_unique (c : SCfg) (hwf : WF c) (hwr : WFR c) (f f' : Nat) (ft ft' : SFeat) (r r' x : Nat)
    (h : c.feat? f = some ft) (h' : c.feat? f' = some ft') (hx : x ∈ ruleScenIds ft r) (hx' : x ∈ ruleScenIds ft' r') :
    f = f' ∧ r = r' := by
  have hf : f = f' := scenIds_feat? c hwf f f' ft ft' h h' x (ruleScenIds_sub ft r x hx) (ruleScenIds_sub ft' r' x hx')
  subst hf
  have : ft' = ft := by rw [h] at h'; exact (Option.some.inj h').symm
  subst this
  refine ⟨rfl, ?_⟩
  obtain ⟨ru, hru, hid, hxr, _⟩ := ruleScenIds_spec ft' r x hx
  obtain ⟨ru', hru', hid', hxr', _⟩ := ruleScenIds_spec ft' r' x hx'
  have := hwr.ruleDisj ft' (feat?_spec c f ft' h).1 ru hru ru' hru' x hxr hxr'
  rw [← hid, ← hid', this]

/-- the rules as a grouping: a scenario inside a rule is counted for that rule, a top-level scenario for none -/
def ruleG (c : SCfg) : Grouping c (Nat × Nat) where
  feat := Prod.fst
  ids := ruleIds c
  of := fun sk => sk.rule.map fun ru => (sk.feat, ru)
  tbl := fun b => b.rules
  ev := fun fr => Ev.ruleFinished fr.1 fr.2
  init := rfl
  start := fun b batch fr => cntL_startFold fr _ _
  fin := fun b sk b' evs h => by
    have := (BrL.scenarioFinished_spec h).2.1
    cases hk : sk.rule with
    | none => simpa only [hk, Option.map_none] using this
    | some ru => simpa only [hk, Option.getD_some, nRule_eq, Option.map_some] using this

theorem ruleG_sound (c : SCfg) (hwf : WF c) (hwr : WFR c) : (ruleG c).Sound where
  nodup := fun fr => by
    show (ruleIds c fr).Nodup
    unfold ruleIds
    cases hfd : c.feat? fr.1 with
    | none => simp
    | some ft => exact ruleScenIds_nodup c hwr ft (feat?_spec c _ ft hfd).1 fr.2
  known := fun fr x hx => by
    obtain ⟨ft, hfd, hx'⟩ := mem_ruleIds.mp hx
    exact ⟨ft, hfd, ruleScenIds_sub ft fr.2 x hx'⟩
  own := fun s hr e he fr => by
    obtain ⟨ft, hft, hxs, hown, hnone⟩ := ownerR c hwf hwr s hr e he
    show e.key.scen ∈ ruleIds c fr ↔ e.key.rule.map (fun ru => (e.key.feat, ru)) = some fr
    refine ⟨fun hx => ?_, fun hfr => ?_⟩
    · obtain ⟨ft', hfd, hx'⟩ := mem_ruleIds.mp hx
      have hff : e.key.feat = fr.1 := scenIds_feat? c hwf _ _ ft ft' hft hfd _ hxs (ruleScenIds_sub _ _ _ hx')
      have hft' : ft' = ft := by rw [← hff, hft] at hfd; exact (Option.some.inj hfd).symm
      subst hft'
      cases hkr : e.key.rule with
      | none => exact absurd hx' (hnone hkr fr.2)
      | some ru =>
        have := (rule_unique c hwf hwr _ _ ft' ft' ru fr.2 _ hft hft (hown ru hkr) hx').2
        simp [hff, this]
    · cases hkr : e.key.rule with
      | none => simp [hkr] at hfr
      | some ru =>
        rw [hkr] at hfr
        rw [← Option.some.inj hfr]
        exact mem_ruleIds.mpr ⟨ft, hft, hown ru hkr⟩

theorem closesR_eq (c : SCfg) (s : SState) : (ruleG c).closes s = closesR c s := by
  unfold Grouping.closes closesR
  rcases s.notifs with _ | ⟨⟨_, k, _, r⟩, _⟩
  · rfl
  · cases r
    · cases hk : k.rule with
      | none => simp [ruleG, hk]
      | some ru =>
        simp only [ruleG, hk, Option.map_some, Option.bind_some, ← nRule_eq]
        cases find? (fun e => e.1 == (k.feat, ru)) s.br.rules <;> simp
    · rfl

/-- the notification that counts the last scenario of a rule makes the model owe `Rule::Finished` for it -/
theorem closesR_owes_finished (c : SCfg) (s : SState) (id : Nat) (failed retried : Bool) (fr : Nat × Nat)
    (hcl : closesR c s = some fr) (hc : Clean0 (stepL c s (.notif id failed retried)) = true) :
    Exp.one (Ev.ruleFinished fr.1 fr.2) ∈ (stepL c s (.notif id failed retried)).expect :=
  closes_owes (ruleG c) s id failed retried fr (closesR_eq c s ▸ hcl) hc

end Cuke.SchedFinR
