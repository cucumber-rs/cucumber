import Cuke.Model.Normalize
/-!
  Emission in the model of `writer::Normalize`. `buffered n` is what the queue still owes the inner writer,
  in the order `emit` will forward it. Each `emit` loop only moves a prefix of what is owed to the output
  (`emitFeats_eq`), provided the queue is well-formed (`NormOk`): `Finished` stands only at the end of an
  attempt's buffer (`ScenariosQueue::emit` stops there), and a rule or feature that has been closed holds only
  complete entries — `emit` removes a closed entry together with whatever is left in it.
-/
namespace Cuke.NormL
open Cuke List

def bufAtt (f : Nat) (r : Option Nat) (a : AttQ) : List Ev := wrapAtt f r a a.evs

def bufRule (f r : Nat) (q : RuleQ) : List Ev :=
  (if q.initial then [Ev.ruleStarted f r] else []) ++ q.atts.flatMap (bufAtt f (some r)) ++
    (if q.fin == .pending then [Ev.ruleFinished f r] else [])

def bufItem (f : Nat) : Item → List Ev
  | .att a => bufAtt f none a
  | .rule r q => bufRule f r q

def bufFeat (fq : Nat × FeatQ) : List Ev :=
  (if fq.2.initial then [Ev.featStarted fq.1] else []) ++ fq.2.items.flatMap (bufItem fq.1) ++
    (if fq.2.fin == .pending then [Ev.featFinished fq.1] else [])

def bufFeats (fs : List (Nat × FeatQ)) : List Ev := fs.flatMap bufFeat

def buffered (n : Norm) : List Ev := bufFeats n.feats ++ (if n.fin == .pending then [Ev.finished] else [])

def attClean (a : AttQ) : Bool := a.evs.dropLast.all (fun e => e != .finished)

def attComplete (a : AttQ) : Bool := a.evs.getLast? == some .finished

def ruleOk (q : RuleQ) : Bool :=
  q.atts.all attClean && (q.fin == .no || q.atts.all attComplete)

def itemOk : Item → Bool
  | .att a => attClean a
  | .rule _ q => ruleOk q

def itemComplete : Item → Bool
  | .att a => attComplete a
  | .rule _ q => q.fin == .pending

def featOk (fq : Nat × FeatQ) : Bool :=
  fq.2.items.all itemOk && (fq.2.fin == .no || fq.2.items.all itemComplete)

def NormOk (n : Norm) : Prop := n.feats.all featOk = true

/-! ## keyed queues: an operation addresses the first entry that matches; `l1 ++ a :: l2` shows it in place -/

theorem any_split {α} {p : α → Bool} {l : List α} (h : l.any p = true) :
    ∃ l1 a l2, l = l1 ++ a :: l2 ∧ p a = true ∧ ∀ x ∈ l1, p x = false := by
  induction l with
  | nil => simp at h
  | cons b rest ih =>
    by_cases hb : p b = true
    · exact ⟨[], b, rest, rfl, hb, by simp⟩
    · have hb' : p b = false := by simpa using hb
      obtain ⟨l1, a, l2, rfl, ha, hm⟩ := ih (by simpa [hb'] using h)
      exact ⟨b :: l1, a, l2, rfl, ha, by simpa [hb'] using hm⟩

theorem find?_split {α} {p : α → Bool} {l1 : List α} {a : α} (l2 : List α)
    (hm : ∀ x ∈ l1, p x = false) (ha : p a = true) : (l1 ++ a :: l2).find? p = some a := by
  induction l1 with
  | nil => simp [ha]
  | cons b rest ih =>
    simp only [mem_cons, forall_eq_or_imp] at hm
    simp [hm.1, ih hm.2]

theorem updFirst_split {α} {p : α → Bool} (g : α → α) {l1 : List α} {a : α} (l2 : List α)
    (hm : ∀ x ∈ l1, p x = false) (ha : p a = true) : updFirst p g (l1 ++ a :: l2) = l1 ++ g a :: l2 := by
  induction l1 with
  | nil => simp [updFirst, ha]
  | cons b rest ih =>
    simp only [mem_cons, forall_eq_or_imp] at hm
    simp [updFirst, hm.1, ih hm.2]

theorem updFeat_split {f : Nat} (g : FeatQ → Option FeatQ) {F1 : List (Nat × FeatQ)} (q : FeatQ) (F2 : List (Nat × FeatQ))
    (hm : ∀ x ∈ F1, (x.1 == f) = false) :
    updFeat (F1 ++ (f, q) :: F2) f g = (g q).map (fun q' => F1 ++ (f, q') :: F2) := by
  induction F1 with
  | nil => simp [updFeat]
  | cons b rest ih =>
    simp only [mem_cons, forall_eq_or_imp] at hm
    simp [updFeat, hm.1, ih hm.2, Function.comp_def]

theorem updFeat_eq_some {fs fs' : List (Nat × FeatQ)} {f : Nat} {g : FeatQ → Option FeatQ}
    (h : updFeat fs f g = some fs') :
    ∃ F1 q q' F2, fs = F1 ++ (f, q) :: F2 ∧ (∀ x ∈ F1, (x.1 == f) = false) ∧ g q = some q' ∧ fs' = F1 ++ (f, q') :: F2 := by
  induction fs generalizing fs' with
  | nil => cases h
  | cons fq rest ih =>
    obtain ⟨f', q0⟩ := fq
    simp only [updFeat] at h
    split at h
    · rename_i hf
      obtain ⟨q', hq', rfl⟩ := Option.map_eq_some_iff.mp h
      cases beq_iff_eq.mp hf
      exact ⟨[], q0, q', rest, rfl, by simp, hq', rfl⟩
    · rename_i hf
      rw [Bool.not_eq_true] at hf
      obtain ⟨r, hr, rfl⟩ := Option.map_eq_some_iff.mp h
      obtain ⟨F1, q, q', F2, rfl, hm, hq', rfl⟩ := ih hr
      exact ⟨(f', q0) :: F1, q, q', F2, rfl, forall_mem_cons.mpr ⟨hf, hm⟩, hq', rfl⟩

theorem emitAtt_clean (evs : List ScenEv) (h : evs.dropLast.all (fun e => e != .finished) = true) :
    (emitAtt evs).1 = evs ∧ ((emitAtt evs).2 = true ↔ evs.getLast? = some .finished) := by
  induction evs with
  | nil => simp [emitAtt]
  | cons e rest ih =>
    cases rest with
    | nil =>
      by_cases he : e = .finished
      · simp [emitAtt, he]
      · have : (e == ScenEv.finished) = false := by simpa using he
        simp [emitAtt, this, he]
    | cons e2 rest2 =>
      simp only [dropLast_cons_cons, all_cons, Bool.and_eq_true] at h
      have he : (e == ScenEv.finished) = false := by simpa using h.1
      have := ih h.2
      have hunf : emitAtt (e :: e2 :: rest2) = (e :: (emitAtt (e2 :: rest2)).1, (emitAtt (e2 :: rest2)).2) := by
        rw [emitAtt]; simp only [he, Bool.false_eq_true, if_false]
      rw [hunf]
      simp only [this.1, true_and]
      rw [this.2]
      simp

theorem emitAtt_done (a : AttQ) (hc : attClean a = true) : (emitAtt a.evs).2 = attComplete a := by
  have := (emitAtt_clean a.evs hc).2
  cases h : (emitAtt a.evs).2 <;> simp_all [attComplete]

/-! ## emission: where it stops, and what it has forwarded by then

  Each `emit` loop pops the entries at the head that are complete, forwarding all they owe, and stops at the
  first entry that is not, forwarding what can be forwarded of it. -/

theorem emitAtts_shape (f : Nat) (r : Option Nat) (atts : List AttQ) (hc : atts.all attClean = true) :
    (atts.all attComplete = true ∧ emitAtts f r atts = (atts.flatMap (bufAtt f r), [])) ∨
    ∃ A1 a A2, atts = A1 ++ a :: A2 ∧ A1.all attComplete = true ∧ attComplete a = false ∧
      emitAtts f r atts = (A1.flatMap (bufAtt f r) ++ bufAtt f r a, { a with evs := [] } :: A2) := by
  induction atts with
  | nil => exact Or.inl ⟨rfl, rfl⟩
  | cons a rest ih =>
    simp only [all_cons, Bool.and_eq_true] at hc
    have hout : wrapAtt f r a (emitAtt a.evs).1 = bufAtt f r a := by rw [(emitAtt_clean a.evs hc.1).1]; rfl
    simp only [emitAtts, emitAtt_done a hc.1, hout]
    cases hd : attComplete a with
    | true =>
      simp only [if_true]
      rcases ih hc.2 with ⟨h1, h2⟩ | ⟨A1, a0, A2, rfl, h1, h2, h3⟩
      · exact Or.inl ⟨by simp [hd, h1], by simp [h2]⟩
      · exact Or.inr ⟨a :: A1, a0, A2, rfl, by simp [hd, h1], h2, by simp [h3]⟩
    | false => exact Or.inr ⟨[], a, rest, rfl, rfl, hd, by simp⟩

theorem emitAtts_eq (f : Nat) (r : Option Nat) (atts : List AttQ) (h : atts.all attClean = true) :
    (emitAtts f r atts).1 ++ (emitAtts f r atts).2.flatMap (bufAtt f r) = atts.flatMap (bufAtt f r) ∧
    ((emitAtts f r atts).2).all attClean = true ∧
    (atts.all attComplete = true → (emitAtts f r atts).2 = []) := by
  rcases emitAtts_shape f r atts h with ⟨_, he⟩ | ⟨A1, a, A2, rfl, _, h2, he⟩
  · simp [he]
  · simp only [all_append, all_cons, Bool.and_eq_true] at h
    rw [he]
    exact ⟨by simp [bufAtt, wrapAtt], by simp [attClean, h.2.2], fun hall => by simp [all_append, h2] at hall⟩

theorem emitRule_done (f r : Nat) (q : RuleQ) : (emitRule f r q).2.1 = (q.fin == .pending) := by
  by_cases hp : q.fin = .pending
  · simp [emitRule, hp]
  · have hp' : (q.fin == Fin.pending) = false := by simpa using hp
    simp [emitRule, hp']

theorem emitRule_eq (f r : Nat) (q : RuleQ) (h : ruleOk q = true) :
    if (emitRule f r q).2.1 then (emitRule f r q).1 = bufRule f r q
    else (emitRule f r q).1 ++ bufRule f r (emitRule f r q).2.2 = bufRule f r q ∧ ruleOk (emitRule f r q).2.2 = true := by
  simp only [ruleOk, Bool.and_eq_true, Bool.or_eq_true] at h
  obtain ⟨e1, e2, e3⟩ := emitAtts_eq f (some r) q.atts h.1
  by_cases hp : q.fin = .pending
  · have hnil := e3 (h.2.resolve_left (by simp [hp]))
    rw [hnil] at e1
    simp only [flatMap_nil, append_nil] at e1
    simp [emitRule, hp, bufRule, e1]
  · have hp' : (q.fin == Fin.pending) = false := by simpa using hp
    simp only [emitRule, hp', Bool.false_eq_true, if_false]
    refine ⟨?_, ?_⟩
    · simp only [bufRule, hp', Bool.false_eq_true, if_false, append_nil, nil_append]
      rw [append_assoc, e1]
    · simp only [ruleOk, e2, Bool.true_and, Bool.or_eq_true]
      rcases h.2 with h2 | h2
      · exact Or.inl h2
      · right
        have := e3 h2
        simp [this]

/-- the item `emit` stops at, as it is left in the queue, and what is forwarded of it -/
def stuck (f : Nat) : Item → Item
  | .att a => .att { a with evs := [] }
  | .rule r q => .rule r (emitRule f r q).2.2

def stuckOut (f : Nat) : Item → List Ev
  | .att a => bufAtt f none a
  | .rule r q => (emitRule f r q).1

theorem emitItems_shape (f : Nat) (items : List Item) (hok : items.all itemOk = true) :
    (items.all itemComplete = true ∧ emitItems f items = (items.flatMap (bufItem f), [])) ∨
    ∃ I1 it I2, items = I1 ++ it :: I2 ∧ I1.all itemComplete = true ∧ itemComplete it = false ∧
      emitItems f items = (I1.flatMap (bufItem f) ++ stuckOut f it, stuck f it :: I2) := by
  induction items with
  | nil => exact Or.inl ⟨rfl, rfl⟩
  | cons it rest ih =>
    simp only [all_cons, Bool.and_eq_true] at hok
    -- one turn of the loop: a complete item is popped with all it owes, an incomplete one stops it
    have hstep : (itemComplete it = true →
          emitItems f (it :: rest) = (bufItem f it ++ (emitItems f rest).1, (emitItems f rest).2)) ∧
        (itemComplete it = false → emitItems f (it :: rest) = (stuckOut f it, stuck f it :: rest)) := by
      cases it with
      | att a =>
        have hout : wrapAtt f none a (emitAtt a.evs).1 = bufAtt f none a := by
          rw [(emitAtt_clean a.evs hok.1).1]; rfl
        simp only [emitItems, emitAtt_done a hok.1, hout, itemComplete, bufItem, stuckOut, stuck]
        exact ⟨fun h => by rw [if_pos h], fun h => by rw [if_neg (by simp [h])]⟩
      | rule r q =>
        have := emitRule_eq f r q hok.1
        simp only [emitItems, emitRule_done, itemComplete, bufItem, stuckOut, stuck] at this ⊢
        exact ⟨fun h => by rw [if_pos h] at this ⊢; rw [this], fun h => by rw [if_neg (by simp [h])]⟩
    cases hd : itemComplete it with
    | true =>
      rw [hstep.1 hd]
      rcases ih hok.2 with ⟨h1, h2⟩ | ⟨I1, it0, I2, rfl, h1, h2, h3⟩
      · exact Or.inl ⟨by simp [hd, h1], by simp [h2]⟩
      · exact Or.inr ⟨it :: I1, it0, I2, rfl, by simp [hd, h1], h2, by simp [h3]⟩
    | false => exact Or.inr ⟨[], it, rest, rfl, rfl, hd, by simp [hstep.2 hd]⟩

theorem emitItems_eq (f : Nat) (items : List Item) (h : items.all itemOk = true) :
    (emitItems f items).1 ++ (emitItems f items).2.flatMap (bufItem f) = items.flatMap (bufItem f) ∧
    (emitItems f items).2.all itemOk = true ∧
    (items.all itemComplete = true → (emitItems f items).2 = []) := by
  rcases emitItems_shape f items h with ⟨_, he⟩ | ⟨I1, it, I2, rfl, _, h2, he⟩
  · simp [he]
  · simp only [all_append, all_cons, Bool.and_eq_true] at h
    rw [he]
    -- what is forwarded of the item emission stops at, and what is left of it, is what it owed
    have hit : stuckOut f it ++ bufItem f (stuck f it) = bufItem f it ∧ itemOk (stuck f it) = true := by
      cases it with
      | att a => simp [stuckOut, stuck, bufItem, bufAtt, wrapAtt, itemOk, attClean]
      | rule r q =>
        have := emitRule_eq f r q h.2.1
        rw [emitRule_done, if_neg (by simpa [itemComplete] using h2)] at this
        exact this
    refine ⟨?_, by simp [hit.2, h.2.2], fun hall => by simp [all_append, h2] at hall⟩
    simp only [flatMap_append, flatMap_cons, append_assoc]
    rw [← append_assoc (stuckOut f it), hit.1]

theorem emitFeats_shape (fs : List (Nat × FeatQ)) (hok : fs.all featOk = true) :
    ((∀ x ∈ fs, x.2.fin = .pending) ∧ emitFeats fs = (bufFeats fs, [])) ∨
    ∃ F1 f q F2, fs = F1 ++ (f, q) :: F2 ∧ (∀ x ∈ F1, x.2.fin = .pending) ∧ q.fin ≠ .pending ∧
      emitFeats fs = (bufFeats F1 ++ ((if q.initial then [Ev.featStarted f] else []) ++ (emitItems f q.items).1),
        (f, { q with initial := false, items := (emitItems f q.items).2 }) :: F2) := by
  induction fs with
  | nil => exact Or.inl ⟨by simp, rfl⟩
  | cons fq rest ih =>
    obtain ⟨f, q⟩ := fq
    simp only [all_cons, Bool.and_eq_true] at hok
    simp only [emitFeats]
    by_cases hp : q.fin = .pending
    · -- a closed feature is complete inside (`featOk`): all it owes is forwarded
      have hout : (if q.initial then [Ev.featStarted f] else []) ++ (emitItems f q.items).1 ++ [Ev.featFinished f] =
          bufFeat (f, q) := by
        have hq := hok.1
        simp only [featOk, hp, Bool.and_eq_true, Bool.or_eq_true] at hq
        obtain ⟨e1, _, e3⟩ := emitItems_eq f q.items hq.1
        rw [e3 (hq.2.resolve_left (by simp)), flatMap_nil, append_nil] at e1
        simp [bufFeat, hp, e1]
      simp only [hp, beq_self_eq_true, if_true, hout]
      rcases ih hok.2 with ⟨h1, h2⟩ | ⟨F1, f0, q0, F2, rfl, h1, h2, h3⟩
      · exact Or.inl ⟨by simpa [hp] using h1, by simp [h2, bufFeats]⟩
      · exact Or.inr ⟨(f, q) :: F1, f0, q0, F2, rfl, by simpa [hp] using h1, h2, by simp [h3, bufFeats]⟩
    · have hp' : (q.fin == Fin.pending) = false := by simpa using hp
      simp only [hp', Bool.false_eq_true, if_false]
      exact Or.inr ⟨[], f, q, rest, rfl, by simp, hp, by simp [bufFeats]⟩

theorem emitFeats_eq (fs : List (Nat × FeatQ)) (h : fs.all featOk = true) :
    (emitFeats fs).1 ++ bufFeats (emitFeats fs).2 = bufFeats fs ∧ (emitFeats fs).2.all featOk = true := by
  rcases emitFeats_shape fs h with ⟨_, he⟩ | ⟨F1, f, q, F2, rfl, _, hp, he⟩
  · simp [he, bufFeats]
  · simp only [all_append, all_cons, Bool.and_eq_true] at h
    have hq := h.2.1
    simp only [featOk, Bool.and_eq_true, Bool.or_eq_true] at hq
    obtain ⟨e1, e2, e3⟩ := emitItems_eq f q.items hq.1
    have hp' : (q.fin == Fin.pending) = false := by simpa using hp
    rw [he]
    refine ⟨?_, ?_⟩
    · simp only [bufFeats, flatMap_append, flatMap_cons, bufFeat, hp', Bool.false_eq_true, if_false, append_nil,
        nil_append, append_assoc]
      rw [← append_assoc (emitItems f q.items).1, e1]
    · simp only [all_cons, Bool.and_eq_true]
      refine ⟨?_, h.2.2⟩
      simp only [featOk, e2, Bool.true_and, Bool.or_eq_true]
      exact hq.2.imp id (fun h2 => by simp [e3 h2])

end Cuke.NormL
