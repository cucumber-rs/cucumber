import Cuke.Lemmas.SchedInv
/-!
  C07 over whole runs of the scheduler LTS: an attempt dispatched into an EMPTY runner stays alone until it
  ends — `execute` waits at its select and dispatches nothing else. With "a Serial entry is always handed out
  as a batch of its own" (`C07.getBatch_serial_alone`) this is isolation of every serial scenario that is
  handed out while nothing is in flight; the remaining case — handed out although something is in flight —
  is exactly the cause pattern of finding F-C07.
-/
namespace Cuke.SchedSerial
open Cuke List Cuke.SchedL Cuke.SchedInv

def Alone (e : Entry) (s : SState) : Prop :=
  s.running = [e] ∧ s.endedUnconsumed = 0 ∧ s.phase = .selecting ∧ s.batch = []

section
open Cuke.SchedStep

theorem alone_step (c : SCfg) (s : SState) (l : Label) (e : Entry) (h : Alone e s) (hg : Good (stepL c s l) = true) :
    Alone e (stepL c s l) ∨ ∃ f r t, l = .endA e.id f r t := by
  rw [good_step, Bool.and_eq_true] at hg
  obtain ⟨_, hf⟩ := hg
  rw [stepL_eq]
  obtain ⟨hr, he, hp, hb⟩ := h
  cases l
  -- the labels of the other phases of `execute` fail their phase check
  all_goals simp [fails, kiq, get2Early, -all_eq_true, hp] at hf
  all_goals simp only [stepD, Alone]
  case cons got => omega
  case endA id f r t =>
    by_cases hid : e.id = id
    · exact Or.inr ⟨f, r, t, by rw [hid]⟩
    · simp [hr, hid, he, hp, hb]
  all_goals exact Or.inl ⟨hr, he, hp, hb⟩

theorem alone_run (c : SCfg) (e : Entry) (mid : List Label) (s : SState) (h : Alone e s)
    (hno : ∀ l ∈ mid, ∀ f r t, l ≠ .endA e.id f r t) (hg : Good (mid.foldl (stepL c) s) = true) :
    Alone e (mid.foldl (stepL c) s) := by
  induction mid generalizing s with
  | nil => exact h
  | cons l rest ih =>
    rcases alone_step c s l e h (all_cls_foldl kiq c rest _ hg) with h1 | ⟨f, r, t, hl⟩
    · exact ih (stepL c s l) h1 (fun l' hl' => hno l' (mem_cons_of_mem _ hl')) hg
    · exact absurd hl (hno l mem_cons_self f r t)

theorem alone_after_dispatch (c : SCfg) (s : SState) (n : Nat) (sl : Slots) (e : Entry)
    (hb : s.batch = [e]) (hr : s.running = []) (he : s.endedUnconsumed = 0) :
    Alone e (stepL c s (.disp n sl)) := by
  rw [stepL_eq]
  simp [stepD, Alone, hb, hr, he]

theorem disp_afterGet2 (c : SCfg) (s : SState) (n : Nat) (sl : Slots) (hg : Good (stepL c s (.disp n sl)) = true) :
    s.phase = .afterGet2 := by
  rw [good_step, Bool.and_eq_true] at hg
  have hf := hg.2
  simp [fails, kiq, -all_eq_true] at hf
  exact hf.1
end

end Cuke.SchedSerial
