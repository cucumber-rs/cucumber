import Lean
/-- rewrites that turn the nested checks and record updates of `stepL` into one flat record -/
register_simp_attr flat_state
