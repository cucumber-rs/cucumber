import Cuke.Lemmas.Normalize
/-! Insertion into the Normalize model: the (decidable) side condition `Safe`, the entry of the queue an
    event addresses shown in place, and that under `Safe` no panic branch is taken and the queue stays
    well-formed. -/
namespace Cuke.NormL
open Cuke List

theorem clean_incomplete_no_finished (evs : List ScenEv)
    (hc : evs.dropLast.all (fun e => e != .finished) = true) (hn : (evs.getLast? == some .finished) = false) :
    evs.all (fun e => e != .finished) = true := by
  induction evs with
  | nil => simp
  | cons e rest ih =>
    cases rest with
    | nil => simpa using hn
    | cons e2 rest2 =>
      simp only [dropLast_cons_cons, all_cons, Bool.and_eq_true] at hc
      have h2 : ((e2 :: rest2).getLast? == some ScenEv.finished) = false := by simpa using hn
      simp only [all_cons, Bool.and_eq_true]
      exact ⟨hc.1, by simpa using ih hc.2 h2⟩

theorem push_clean (a : AttQ) (ev : ScenEv) (hc : attClean a = true) (hn : attComplete a = false) :
    attClean (a.push ev) = true := by
  have := clean_incomplete_no_finished a.evs hc hn
  simp [attClean, AttQ.push, this]

theorem bufAtt_push (f : Nat) (r : Option Nat) (a : AttQ) (ev : ScenEv) :
    bufAtt f r (a.push ev) = bufAtt f r a ++ [Ev.scen ⟨f, r, a.scen⟩ a.ret ev] := by
  simp [bufAtt, wrapAtt, AttQ.push]

def featIn (n : Norm) (f : Nat) : Option FeatQ := (n.feats.find? (fun e => e.1 == f)).map (·.2)

def safeAtt (atts : List AttQ) (scen : Nat) (ret : Option Retries) : Bool :=
  match atts.find? (AttQ.is scen ret) with
  | some a => !attComplete a
  | none => true

def safeScen (q : FeatQ) (rule : Option Nat) (scen : Nat) (ret : Option Retries) : Bool :=
  q.fin == .no &&
  match rule with
  | some r =>
    match q.items.find? (Item.isRule r) with
    | some (.rule _ rq) => rq.fin == .no && safeAtt rq.atts scen ret
    | _ => false
  | none =>
    match q.items.find? (Item.isAtt scen ret) with
    | some (.att a) => !attComplete a
    | _ => true

/-- The event may be handed to the normalizer in state `n` without breaking its bookkeeping:
    brackets are not re-opened while present, nothing arrives for an entity that is already closed,
    and a closing bracket arrives only when everything inside has finished. -/
def Safe (n : Norm) : Ev → Bool
  | .featStarted f => !(n.feats.any (fun e => e.1 == f))
  | .featFinished f =>
    match featIn n f with
    | some q => q.fin == .no && q.items.all itemComplete
    | none => false
  | .ruleStarted f r =>
    match featIn n f with
    | some q => q.fin == .no && !(q.items.any (Item.isRule r))
    | none => false
  | .ruleFinished f r =>
    match featIn n f with
    | some q =>
      match q.items.find? (Item.isRule r) with
      | some (.rule _ rq) => rq.fin == .no && rq.atts.all attComplete
      | _ => false
    | none => false
  | .scen k ret _ =>
    match featIn n k.feat with
    | some q => safeScen q k.rule k.scen ret
    | none => false
  | _ => true

/-- what `Norm.insert` adds to the buffer: the event itself, except that run-level events bypass the
    queue and run-Finished only sets the pending mark -/
def queued (e : Ev) : List Ev := if e.isRunLevel || e == .finished then [] else [e]

theorem is_iff {scen : Nat} {ret : Option Retries} {a : AttQ} : a.is scen ret = true ↔ a.scen = scen ∧ a.ret = ret := by
  simp [AttQ.is]

theorem isRule_iff {r : Nat} {it : Item} : it.isRule r = true ↔ ∃ q, it = .rule r q := by
  cases it <;> simp [Item.isRule]

theorem isAtt_iff {scen : Nat} {ret : Option Retries} {it : Item} :
    it.isAtt scen ret = true ↔ ∃ a, it = .att a ∧ a.scen = scen ∧ a.ret = ret := by
  cases it <;> simp [Item.isAtt]

theorem isRule_rule (r : Nat) (q : RuleQ) : (Item.rule r q).isRule r = true := by simp [Item.isRule]

theorem featIn_eq_some {n : Norm} {f : Nat} {q : FeatQ} :
    featIn n f = some q ↔ ∃ F1 F2, n.feats = F1 ++ (f, q) :: F2 ∧ ∀ x ∈ F1, (x.1 == f) = false := by
  simp only [featIn, Option.map_eq_some_iff, find?_eq_some_iff_append, Prod.exists]
  constructor
  · rintro ⟨f', q', ⟨hf, F1, F2, h, hm⟩, rfl⟩
    have : f' = f := by simpa using hf
    subst this
    exact ⟨F1, F2, h, fun x hx => by simpa using hm x hx⟩
  · rintro ⟨F1, F2, h, hm⟩
    exact ⟨f, q, ⟨by simp, F1, F2, h, fun x hx => by simpa using hm x hx⟩, rfl⟩

/-- the four events that address a queued feature: `Norm.insert` replaces that feature's entry, in place -/
theorem insert_split {n n1 : Norm} {f : Nat} {g : FeatQ → Option FeatQ}
    (h : (updFeat n.feats f g).map (fun fs => { n with feats := fs }) = some n1) :
    ∃ F1 q q' F2, n.feats = F1 ++ (f, q) :: F2 ∧ featIn n f = some q ∧ g q = some q' ∧
      n1 = { n with feats := F1 ++ (f, q') :: F2 } := by
  obtain ⟨fs, hfs, rfl⟩ := Option.map_eq_some_iff.mp h
  obtain ⟨F1, q, q', F2, h1, hm, hg, rfl⟩ := updFeat_eq_some hfs
  exact ⟨F1, q, q', F2, h1, featIn_eq_some.mpr ⟨F1, F2, h1, hm⟩, hg, rfl⟩

theorem rule_split {items : List Item} {r : Nat} (h : items.any (Item.isRule r) = true) :
    ∃ I1 rq I2, items = I1 ++ .rule r rq :: I2 ∧ ∀ x ∈ I1, x.isRule r = false := by
  obtain ⟨I1, it, I2, rfl, hp, hm⟩ := any_split h
  obtain ⟨rq, rfl⟩ := isRule_iff.mp hp
  exact ⟨I1, rq, I2, rfl, hm⟩

theorem ruleFinished_eq_some {q q' : FeatQ} {r : Nat} (h : q.ruleFinished r = some q') :
    ∃ I1 rq I2, q.items = I1 ++ .rule r rq :: I2 ∧ (∀ x ∈ I1, x.isRule r = false) ∧
      q' = { q with items := I1 ++ .rule r { rq with fin := .pending } :: I2 } := by
  unfold FeatQ.ruleFinished at h
  split at h
  · rename_i hex
    obtain ⟨I1, rq, I2, hi, hm⟩ := rule_split hex
    refine ⟨I1, rq, I2, hi, hm, ?_⟩
    rw [← Option.some.inj h, hi, updFirst_split _ _ hm (isRule_rule r rq)]
    rfl
  · cases h

theorem pushAtt_cases (atts : List AttQ) (scen : Nat) (ret : Option Retries) (ev : ScenEv) :
    (∃ A1 a A2, atts = A1 ++ a :: A2 ∧ a.scen = scen ∧ a.ret = ret ∧ (∀ x ∈ A1, x.is scen ret = false) ∧
      pushAtt atts scen ret ev = A1 ++ a.push ev :: A2) ∨
    ((∀ x ∈ atts, x.is scen ret = false) ∧ pushAtt atts scen ret ev = atts ++ [⟨scen, ret, [ev]⟩]) := by
  unfold pushAtt
  by_cases hex : atts.any (AttQ.is scen ret) = true
  · obtain ⟨A1, a, A2, rfl, hp, hm⟩ := any_split hex
    obtain ⟨h1, h2⟩ := is_iff.mp hp
    exact Or.inl ⟨A1, a, A2, rfl, h1, h2, hm, by rw [if_pos hex, updFirst_split _ _ hm hp]⟩
  · exact Or.inr ⟨by simpa using hex, by rw [if_neg hex]⟩

theorem insertScen_some {q q' : FeatQ} {r scen : Nat} {ret : Option Retries} {ev : ScenEv}
    (h : q.insertScen (some r) scen ret ev = some q') :
    ∃ I1 rq I2, q.items = I1 ++ .rule r rq :: I2 ∧ (∀ x ∈ I1, x.isRule r = false) ∧
      q' = { q with items := I1 ++ .rule r { rq with atts := pushAtt rq.atts scen ret ev } :: I2 } := by
  simp only [FeatQ.insertScen] at h
  split at h
  · rename_i hex
    obtain ⟨I1, rq, I2, hi, hm⟩ := rule_split hex
    refine ⟨I1, rq, I2, hi, hm, ?_⟩
    rw [← Option.some.inj h, hi, updFirst_split _ _ hm (isRule_rule r rq)]
    rfl
  · cases h

theorem insertScen_none {q q' : FeatQ} {scen : Nat} {ret : Option Retries} {ev : ScenEv}
    (h : q.insertScen none scen ret ev = some q') :
    (∃ I1 a I2, q.items = I1 ++ .att a :: I2 ∧ a.scen = scen ∧ a.ret = ret ∧ (∀ x ∈ I1, x.isAtt scen ret = false) ∧
      q' = { q with items := I1 ++ .att (a.push ev) :: I2 }) ∨
    ((∀ x ∈ q.items, x.isAtt scen ret = false) ∧ q' = { q with items := q.items ++ [.att ⟨scen, ret, [ev]⟩] }) := by
  simp only [FeatQ.insertScen] at h
  split at h
  · rename_i hex
    obtain ⟨I1, it, I2, hi, hp, hm⟩ := any_split hex
    obtain ⟨a, rfl, h1, h2⟩ := isAtt_iff.mp hp
    refine Or.inl ⟨I1, a, I2, hi, h1, h2, hm, ?_⟩
    rw [← Option.some.inj h, hi, updFirst_split _ _ hm hp]
    rfl
  · rename_i hex
    exact Or.inr ⟨by simpa using hex, (Option.some.inj h).symm⟩

theorem filter_none {α} (p : α → Bool) (l : List α) (h : l.any p = false) : l.filter (fun a => !p a) = l := by
  rw [filter_eq_self]
  intro a ha
  simpa using any_eq_false.mp h a ha

/-! `Norm.insert` under `Safe`, one lemma per bracket event (a scenario event: `insert_split`, then
  `insertScen_some` / `insertScen_none`) -/

theorem insert_featStarted {n n1 : Norm} {f : Nat} (hs : Safe n (.featStarted f) = true)
    (h : n.insert (.featStarted f) = some n1) :
    n.feats.any (fun e => e.1 == f) = false ∧ n1 = { n with feats := n.feats ++ [(f, FeatQ.new)] } := by
  simp only [Safe, Bool.not_eq_true'] at hs
  simp only [Norm.insert, filter_none _ _ hs, Option.some.injEq] at h
  exact ⟨hs, h.symm⟩

theorem insert_featFinished {n n1 : Norm} {f : Nat} (hs : Safe n (.featFinished f) = true)
    (h : n.insert (.featFinished f) = some n1) :
    ∃ F1 q F2, n.feats = F1 ++ (f, q) :: F2 ∧ q.fin = .no ∧ q.items.all itemComplete = true ∧
      n1 = { n with feats := F1 ++ (f, { q with fin := .pending }) :: F2 } := by
  obtain ⟨F1, q, q', F2, hfs, hq, hg, rfl⟩ := insert_split h
  simp only [Safe, hq, Bool.and_eq_true, beq_iff_eq] at hs
  cases hg
  exact ⟨F1, q, F2, hfs, hs.1, hs.2, rfl⟩

theorem insert_ruleStarted {n n1 : Norm} {f r : Nat} (hs : Safe n (.ruleStarted f r) = true)
    (h : n.insert (.ruleStarted f r) = some n1) :
    ∃ F1 q F2, n.feats = F1 ++ (f, q) :: F2 ∧ q.fin = .no ∧ q.items.any (Item.isRule r) = false ∧
      n1 = { n with feats := F1 ++ (f, { q with items := q.items ++ [.rule r RuleQ.new] }) :: F2 } := by
  obtain ⟨F1, q, q', F2, hfs, hq, hg, rfl⟩ := insert_split h
  simp only [Safe, hq, Bool.and_eq_true, beq_iff_eq, Bool.not_eq_true'] at hs
  cases hg
  exact ⟨F1, q, F2, hfs, hs.1, hs.2, by rw [FeatQ.newRule, filter_none _ _ hs.2]⟩

theorem insert_ruleFinished {n n1 : Norm} {f r : Nat} (hs : Safe n (.ruleFinished f r) = true)
    (h : n.insert (.ruleFinished f r) = some n1) :
    ∃ F1 q F2 I1 rq I2, n.feats = F1 ++ (f, q) :: F2 ∧ q.items = I1 ++ .rule r rq :: I2 ∧ rq.fin = .no ∧
      rq.atts.all attComplete = true ∧
      n1 = { n with feats := F1 ++ (f, { q with items := I1 ++ .rule r { rq with fin := .pending } :: I2 }) :: F2 } := by
  obtain ⟨F1, q, q', F2, hfs, hq, hg, rfl⟩ := insert_split h
  obtain ⟨I1, rq, I2, hi, hmi, rfl⟩ := ruleFinished_eq_some hg
  simp only [Safe, hq, hi, find?_split I2 hmi (isRule_rule r rq), Bool.and_eq_true, beq_iff_eq] at hs
  exact ⟨F1, q, F2, I1, rq, I2, hfs, hi, hs.1, hs.2, rfl⟩

/-- T0 for one insertion: under `Safe` no `panic!` / `unreachable!` branch of the queue update is taken -/
theorem insert_some (n : Norm) (e : Ev) (hs : Safe n e = true) : ∃ n1, n.insert e = some n1 := by
  -- an event for feature `f` finds its feature, so `updFeat` only fails if the feature's own update does
  have key : ∀ (f : Nat) (g : FeatQ → Option FeatQ) (q : FeatQ), featIn n f = some q → (g q).isSome = true →
      ∃ n1, (updFeat n.feats f g).map (fun fs => { n with feats := fs }) = some n1 := by
    intro f g q hq hg
    obtain ⟨F1, F2, hfs, hm⟩ := featIn_eq_some.mp hq
    obtain ⟨q', hq'⟩ := Option.isSome_iff_exists.mp hg
    exact ⟨_, by rw [hfs, updFeat_split g q F2 hm, hq']; rfl⟩
  cases e with
  | featFinished f =>
    simp only [Safe] at hs
    split at hs
    · rename_i q hq; exact key f _ q hq rfl
    · cases hs
  | ruleStarted f r =>
    simp only [Safe] at hs
    split at hs
    · rename_i q hq; exact key f _ q hq rfl
    · cases hs
  | ruleFinished f r =>
    simp only [Safe] at hs
    split at hs
    · rename_i q hq
      refine key f _ q hq ?_
      split at hs
      · rename_i rq hfind
        simp [FeatQ.ruleFinished, any_eq_true.mpr ⟨_, mem_of_find?_eq_some hfind, find?_some hfind⟩]
      · cases hs
    · cases hs
  | scen k ret ev =>
    simp only [Safe] at hs
    split at hs
    · rename_i q hq
      refine key k.feat _ q hq ?_
      simp only [safeScen, Bool.and_eq_true] at hs
      cases hr : k.rule with
      | none => simp only [FeatQ.insertScen]; split <;> rfl
      | some r =>
        simp only [hr] at hs
        have hs2 := hs.2
        split at hs2
        · rename_i rq hfind
          simp [FeatQ.insertScen, any_eq_true.mpr ⟨_, mem_of_find?_eq_some hfind, find?_some hfind⟩]
        · cases hs2
    · cases hs
  | _ => exact ⟨_, rfl⟩

theorem insert_fin (n n1 : Norm) (e : Ev) (h : n.insert e = some n1) :
    n1.fin = (if e == .finished then .pending else n.fin) := by
  cases e with
  | featFinished f | ruleStarted f r | ruleFinished f r | scen k ret ev =>
    obtain ⟨_, _, _, _, _, _, _, rfl⟩ := insert_split h; rfl
  | _ => cases h; rfl

theorem handle_eq_some {n n' : Norm} {e : Ev} {out : List Ev} (h : n.handle e = some (n', out)) :
    (n.fin = .emitted ∧ n' = n ∧ out = [e]) ∨
    (n.fin ≠ .emitted ∧ ∃ n1, n.insert e = some n1 ∧
      out = (if e.isRunLevel then [e] else []) ++ (emitFeats n1.feats).1 ++ (if n1.fin == .pending then [.finished] else []) ∧
      n' = { feats := (emitFeats n1.feats).2, fin := if n1.fin == .pending then .emitted else n1.fin }) := by
  unfold Norm.handle at h
  split at h
  · rename_i hem
    obtain ⟨rfl, rfl⟩ := Prod.mk.inj (Option.some.inj h)
    exact Or.inl ⟨by simpa using hem, rfl, rfl⟩
  · rename_i hem
    refine Or.inr ⟨by simpa using hem, ?_⟩
    split at h
    · cases h
    · rename_i n1 hi
      refine ⟨n1, hi, ?_⟩
      by_cases hp : (n1.fin == Fin.pending) = true
      · simp only [hp, if_true, Option.some.injEq, Prod.mk.injEq] at h ⊢
        exact ⟨h.2.symm, h.1.symm⟩
      · have hp' : (n1.fin == Fin.pending) = false := by simpa using hp
        simp only [hp', Bool.false_eq_true, if_false, Option.some.injEq, Prod.mk.injEq, append_nil] at h ⊢
        exact ⟨h.2.symm, h.1.symm⟩

theorem handle_of_no {n n1 : Norm} {e : Ev} (hno : n.fin = .no) (hi : n.insert e = some n1) :
    n.handle e = some ({ feats := (emitFeats n1.feats).2, fin := if e == .finished then .emitted else .no },
      (if e.isRunLevel then [e] else []) ++ (emitFeats n1.feats).1 ++ (if e == .finished then [.finished] else [])) := by
  have hfin := insert_fin n n1 e hi
  rw [hno] at hfin
  by_cases hf : e = .finished
  · subst hf
    simp [Norm.handle, hno, hi, hfin]
  · have hf' : (e == Ev.finished) = false := by simpa using hf
    simp [Norm.handle, hno, hi, hfin, hf']

theorem handle_no {n n' : Norm} {e : Ev} {out : List Ev} (hno : n.fin = .no) (h : n.handle e = some (n', out)) :
    ∃ n1, n.insert e = some n1 ∧
      out = (if e.isRunLevel then [e] else []) ++ (emitFeats n1.feats).1 ++ (if e == .finished then [.finished] else []) ∧
      n' = { feats := (emitFeats n1.feats).2, fin := if e == .finished then .emitted else .no } := by
  cases hi : n.insert e with
  | none => simp [Norm.handle, hno, hi] at h
  | some n1 =>
    rw [handle_of_no hno hi] at h
    obtain ⟨rfl, rfl⟩ := Prod.mk.inj (Option.some.inj h)
    exact ⟨n1, rfl, rfl, rfl⟩

theorem fin_no {x : Fin} (hp : x ≠ .pending) (he : x ≠ .emitted) : x = .no := by
  cases x with
  | no => rfl
  | pending => exact absurd rfl hp
  | emitted => exact absurd rfl he

theorem normRun_cons {n n1 n' : Norm} {e : Ev} {es out : List Ev} {outs : List (List Ev)}
    (hh : n.handle e = some (n1, out)) (hr : normRun n1 es = some (n', outs)) :
    normRun n (e :: es) = some (n', out :: outs) := by
  simp only [normRun, hh, hr]

theorem pushAtt_clean (atts : List AttQ) (scen : Nat) (ret : Option Retries) (ev : ScenEv)
    (hall : atts.all attClean = true) (hs : safeAtt atts scen ret = true) :
    (pushAtt atts scen ret ev).all attClean = true := by
  rcases pushAtt_cases atts scen ret ev with ⟨A1, a, A2, rfl, h1, h2, hm, he⟩ | ⟨_, he⟩
  · simp only [safeAtt, find?_split A2 hm (is_iff.mpr ⟨h1, h2⟩), Bool.not_eq_true'] at hs
    simp only [he, all_append, all_cons, Bool.and_eq_true] at hall ⊢
    exact ⟨hall.1, push_clean a ev hall.2.1 hs, hall.2.2⟩
  · simp [he, all_append, hall, attClean]

theorem insertScen_ok (f : Nat) (q q' : FeatQ) (rule : Option Nat) (scen : Nat) (ret : Option Retries) (ev : ScenEv)
    (h : q.insertScen rule scen ret ev = some q') (hs : safeScen q rule scen ret = true) (hok : featOk (f, q) = true) :
    featOk (f, q') = true := by
  simp only [safeScen, Bool.and_eq_true, beq_iff_eq] at hs
  obtain ⟨hfin, hs⟩ := hs
  simp only [featOk, Bool.and_eq_true] at hok
  have hitems := hok.1
  cases rule with
  | some r =>
    obtain ⟨I1, rq, I2, hi, hm, rfl⟩ := insertScen_some h
    simp only [hi, find?_split I2 hm (isRule_rule r rq), Bool.and_eq_true, beq_iff_eq] at hs
    simp only [hi, all_append, all_cons, Bool.and_eq_true, itemOk, ruleOk] at hitems
    simp only [featOk, hfin, all_append, all_cons, itemOk, ruleOk, hs.1, hitems.1, hitems.2.2,
      pushAtt_clean rq.atts scen ret ev hitems.2.1.1 hs.2, beq_self_eq_true, Bool.true_or, Bool.and_self]
  | none =>
    rcases insertScen_none h with ⟨I1, a, I2, hi, h1, h2, hm, rfl⟩ | ⟨_, rfl⟩
    · simp only [hi, find?_split I2 hm (isAtt_iff.mpr ⟨a, rfl, h1, h2⟩), Bool.not_eq_true'] at hs
      simp only [hi, all_append, all_cons, Bool.and_eq_true, itemOk] at hitems
      simp only [featOk, hfin, all_append, all_cons, itemOk, hitems.1, hitems.2.2,
        push_clean a ev hitems.2.1 hs, beq_self_eq_true, Bool.true_or, Bool.and_self]
    · simp [featOk, all_append, hitems, itemOk, attClean, hfin]

theorem insert_ok (n n1 : Norm) (e : Ev) (hok : NormOk n) (hs : Safe n e = true) (h : n.insert e = some n1) :
    NormOk n1 := by
  unfold NormOk at *
  -- an event for a queued feature replaces that feature's entry; the others are as before
  have lift : ∀ {F1 : List (Nat × FeatQ)} {f q q' F2}, n.feats = F1 ++ (f, q) :: F2 →
      (featOk (f, q) = true → featOk (f, q') = true) → (F1 ++ (f, q') :: F2).all featOk = true := by
    intro F1 f q q' F2 hfs hq
    simp only [hfs, all_append, all_cons, Bool.and_eq_true] at hok ⊢
    exact ⟨hok.1, hq hok.2.1, hok.2.2⟩
  cases e with
  | featStarted f =>
    obtain ⟨_, rfl⟩ := insert_featStarted hs h
    simp [all_append, hok, featOk, FeatQ.new]
  | featFinished f =>
    obtain ⟨F1, q, F2, hfs, _, hall, rfl⟩ := insert_featFinished hs h
    refine lift hfs (fun hq => ?_)
    simp only [featOk, Bool.and_eq_true] at hq ⊢
    exact ⟨hq.1, by simp [hall]⟩
  | ruleStarted f r =>
    obtain ⟨F1, q, F2, hfs, hfin, _, rfl⟩ := insert_ruleStarted hs h
    refine lift hfs (fun hq => ?_)
    simp only [featOk, Bool.and_eq_true] at hq
    simp [featOk, all_append, hq.1, itemOk, ruleOk, RuleQ.new, hfin]
  | ruleFinished f r =>
    obtain ⟨F1, q, F2, I1, rq, I2, hfs, hi, _, hall, rfl⟩ := insert_ruleFinished hs h
    refine lift hfs (fun hq => ?_)
    simp only [featOk, hi, all_append, all_cons, Bool.and_eq_true, itemOk, ruleOk, itemComplete, Bool.or_eq_true] at hq ⊢
    refine ⟨⟨hq.1.1, ⟨hq.1.2.1.1, Or.inr hall⟩, hq.1.2.2⟩, ?_⟩
    rcases hq.2 with h2 | h2
    · exact Or.inl h2
    · exact Or.inr ⟨h2.1, rfl, h2.2.2⟩
  | scen k ret ev =>
    obtain ⟨F1, q, q', F2, hfs, hq, hg, rfl⟩ := insert_split h
    simp only [Safe, hq] at hs
    exact lift hfs (insertScen_ok k.feat q q' k.rule k.scen ret ev hg hs)
  | _ => cases h; exact hok

end Cuke.NormL
