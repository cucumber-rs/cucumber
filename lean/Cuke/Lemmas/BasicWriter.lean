import Cuke.Model.BasicWriter
import Cuke.Lemmas.Fold
/-! For C14: on a stream the recogniser `SeqSt` accepts, the recogniser's state, the writer's indentation and the
    reader's header context move together (`Tied`), so what each event prints reads back as that event's fact. -/
namespace Cuke.Rep
open Cuke List

def readFrom (c : BCtx) (ls : List BLine) : BCtx × List BFact :=
  ls.foldl (fun (acc : BCtx × List BFact) l => let r := readLine acc.1 l; (r.1, acc.2 ++ r.2)) (c, [])

theorem readReport_eq (ls : List BLine) : readReport ls = (readFrom {} ls).2 := rfl

theorem readFrom_nil (c : BCtx) : readFrom c [] = (c, []) := rfl

theorem readFrom_append (c : BCtx) (a b : List BLine) :
    readFrom c (a ++ b) = ((readFrom (readFrom c a).1 b).1, (readFrom c a).2 ++ (readFrom (readFrom c a).1 b).2) := by
  simp only [readFrom, foldl_append]
  exact foldl_emit readLine _ _ b

def basicFrom (s : Basic) (evs : List Ev) : Basic × List BLine :=
  evs.foldl (fun (acc : Basic × List BLine) e => let r := acc.1.handle e; (r.1, acc.2 ++ r.2)) (s, [])

theorem basicRun_eq (evs : List Ev) : basicRun evs = basicFrom {} evs := rfl

theorem basicFrom_cons (s : Basic) (e : Ev) (es : List Ev) :
    basicFrom s (e :: es) = ((basicFrom (s.handle e).1 es).1, (s.handle e).2 ++ (basicFrom (s.handle e).1 es).2) :=
  foldl_emit Basic.handle (s.handle e).1 (s.handle e).2 es

theorem raw_stepResult (b : Basic) (k : ScenKey) (bg : Bool) (i : Nat) (r : StepRes) :
    (b.stepResult k bg i r).2.filterMap rawOfLine = ((statusOf r).map (RawFact.step bg i)).toList := by
  cases r with
  | failed err => cases err <;> rfl
  | _ => rfl

theorem handle_raw (s : Basic) (e : Ev) : (s.handle e).2.filterMap rawOfLine = (rawOfEv e).toList := by
  cases e with
  | scen k ret se =>
    cases se with
    | hook t r => cases r <;> rfl
    | bg i r => exact raw_stepResult s k true i r
    | step i r => exact raw_stepResult s k false i r
    | _ => rfl
  | _ => rfl

theorem read_stepResult (b : Basic) (c : BCtx) (k : ScenKey) (bg : Bool) (i : Nat) (r : StepRes) :
    readFrom c (b.stepResult k bg i r).2 = (c, ((statusOf r).map (BFact.step c.feat c.rule c.scen bg i)).toList) := by
  cases r with
  | failed err => cases err <;> rfl
  | _ => rfl

theorem read_handle_scen (b : Basic) (c : BCtx) (k : ScenKey) (ret : Option Retries) (se : ScenEv) (hse : se ≠ .started)
    (hf : c.feat = some k.feat) (hr : c.rule = k.rule) (hs : c.scen = some (k.scen, retryOf ret)) :
    readFrom c (b.handle (.scen k ret se)).2 = (c, (bfactOf (.scen k ret se)).toList) := by
  cases se with
  | started => exact absurd rfl hse
  | finished => rfl
  | log m => rfl
  | hook t r => cases r <;> simp [Basic.handle, readFrom, readLine, bfactOf, hf, hr, hs]
  | bg i r => simp only [Basic.handle, read_stepResult, bfactOf, hf, hr, hs]
  | step i r => simp only [Basic.handle, read_stepResult, bfactOf, hf, hr, hs]

theorem SeqSt.scen_of_step {q q' : SeqSt} {k : ScenKey} {ret : Option Retries} {se : ScenEv} (hse : se ≠ .started)
    (hs : q.step (.scen k ret se) = some q') : q.scen = some (k, ret) := by
  have key : ∀ o x, (if q.inScen k ret o then some x else none) = some q' → q.scen = some (k, ret) := by
    intro o x h
    simp only [SeqSt.inScen, Option.ite_none_right_eq_some, Bool.and_eq_true, beq_iff_eq] at h
    exact h.1.1
  cases se with
  | started => exact absurd rfl hse
  | finished => exact key _ _ hs
  | log m =>
    simp only [SeqSt.step, Option.ite_none_right_eq_some, beq_iff_eq] at hs
    exact hs.1
  | hook t r => cases r <;> exact key _ _ hs
  | bg i r => cases r <;> exact key _ _ hs
  | step i r => cases r <;> exact key _ _ hs

theorem SeqSt.feat_of_step {q q' : SeqSt} {e : Ev} (hs : q.step e = some q') :
    q'.feat = match e with
      | .featStarted f => some f
      | .featFinished _ => none
      | _ => q.feat := by
  have key : ∀ (g : Bool) (x : SeqSt), (if g then some x else none) = some q' → x.feat = q'.feat := by
    intro g x h
    simp only [Option.ite_none_right_eq_some, Option.some.injEq] at h
    rw [h.2]
  cases e with
  | scen k ret se =>
    cases se with
    | hook t r => cases r <;> exact (key _ _ hs).symm
    | bg i r => cases r <;> exact (key _ _ hs).symm
    | step i r => cases r <;> exact (key _ _ hs).symm
    | _ => exact (key _ _ hs).symm
  | featStarted f => exact (key _ _ hs).symm
  | featFinished f => exact (key _ _ hs).symm
  | ruleStarted f r => exact (key _ _ hs).symm
  | ruleFinished f r => exact (key _ _ hs).symm
  | _ => cases hs; rfl

structure Tied (q : SeqSt) (b : Basic) (c : BCtx) : Prop where
  indent : b.indent = (if q.rule.isSome then 2 else 0) + (if q.scen.isSome then 2 else 0) + (if q.opened then 4 else 0)
  closed : q.scen = none → q.opened = false
  feat : ∀ f, q.feat = some f → c.feat = some f
  rule : ∀ r, q.rule = some r → c.rule = some r
  scen : ∀ k ret, q.scen = some (k, ret) →
    c.scen = some (k.scen, retryOf ret) ∧ c.rule = k.rule ∧ q.feat = some k.feat ∧ q.rule = k.rule

/-- a hook or step starts -/
theorem Tied.opening {q q' : SeqSt} {b : Basic} {c : BCtx} {k : ScenKey} {ret : Option Retries} (h : Tied q b c)
    (hs : (if q.inScen k ret false then some { q with opened := true } else none) = some q') :
    Tied q' ⟨b.indent + 4⟩ c := by
  simp only [SeqSt.inScen, Option.ite_none_right_eq_some, Option.some.injEq, Bool.and_eq_true, beq_iff_eq] at hs
  obtain ⟨⟨hq, ho⟩, rfl⟩ := hs
  exact ⟨by simp [h.indent, hq, ho], by simp [hq], h.feat, h.rule, h.scen⟩

/-- its result arrives -/
theorem Tied.closing {q q' : SeqSt} {b : Basic} {c : BCtx} {k : ScenKey} {ret : Option Retries} (h : Tied q b c)
    (hs : (if q.inScen k ret true then some { q with opened := false } else none) = some q') :
    Tied q' ⟨b.indent - 4⟩ c := by
  simp only [SeqSt.inScen, Option.ite_none_right_eq_some, Option.some.injEq, Bool.and_eq_true, beq_iff_eq] at hs
  obtain ⟨⟨hq, ho⟩, rfl⟩ := hs
  exact ⟨by simp [h.indent, hq, ho], fun _ => rfl, h.feat, h.rule, h.scen⟩

theorem tied_step (q q' : SeqSt) (b : Basic) (c : BCtx) (e : Ev) (h : Tied q b c) (hs : q.step e = some q') :
    Tied q' (b.handle e).1 (readFrom c (b.handle e).2).1 ∧ (readFrom c (b.handle e).2).2 = (bfactOf e).toList := by
  have ⟨hi, hc, hf, hr, hsc⟩ := h
  cases e with
  | featStarted f =>
    simp only [SeqSt.step, Option.ite_none_right_eq_some, Option.some.injEq, Bool.and_eq_true,
      Option.isNone_iff_eq_none] at hs
    obtain ⟨⟨⟨-, h2⟩, h3⟩, rfl⟩ := hs
    exact ⟨⟨by simp [Basic.handle, hi, h2, h3, hc h3], fun _ => rfl, fun _ h => h, nofun, nofun⟩, rfl⟩
  | featFinished f =>
    simp only [SeqSt.step, Option.ite_none_right_eq_some, Option.some.injEq, Bool.and_eq_true,
      Option.isNone_iff_eq_none, beq_iff_eq] at hs
    obtain ⟨⟨⟨-, h2⟩, h3⟩, rfl⟩ := hs
    exact ⟨⟨by simp [Basic.handle, hi, h2, h3, hc h3], fun _ => rfl, nofun, nofun, nofun⟩, rfl⟩
  | ruleStarted f r =>
    simp only [SeqSt.step, Option.ite_none_right_eq_some, Option.some.injEq, Bool.and_eq_true,
      Option.isNone_iff_eq_none, beq_iff_eq] at hs
    obtain ⟨⟨⟨-, h2⟩, h3⟩, rfl⟩ := hs
    exact ⟨⟨by simp [Basic.handle, hi, h2, h3, hc h3], hc, hf, fun _ h => h, by simp [h3]⟩, rfl⟩
  | ruleFinished f r =>
    simp only [SeqSt.step, Option.ite_none_right_eq_some, Option.some.injEq, Bool.and_eq_true,
      Option.isNone_iff_eq_none, beq_iff_eq] at hs
    obtain ⟨⟨⟨-, h2⟩, h3⟩, rfl⟩ := hs
    exact ⟨⟨by simp [Basic.handle, hi, h2, h3, hc h3], hc, hf, nofun, by simp [h3]⟩, rfl⟩
  | scen k ret se =>
    by_cases hse : se = .started
    · subst hse
      simp only [SeqSt.step, Option.ite_none_right_eq_some, Option.some.injEq, Bool.and_eq_true,
        Option.isNone_iff_eq_none, beq_iff_eq] at hs
      obtain ⟨⟨⟨h1, h2⟩, h3⟩, rfl⟩ := hs
      -- the header is at column 2 exactly when no rule is open: the reader keeps its `Rule:` iff the recogniser has one
      have hrule : (if b.indent + 2 ≤ 2 then none else c.rule) = q.rule := by
        cases hq : q.rule with
        | none => simp [hi, hq, h3, hc h3]
        | some r => simp [hi, hq, h3, hc h3, hr r hq]
      refine ⟨⟨by simp [Basic.handle, hi, h3, hc h3], nofun, hf, fun r hq => hrule.trans hq, ?_⟩, rfl⟩
      rintro _ _ ⟨⟩
      exact ⟨rfl, hrule.trans h2, h1, h2⟩
    · have hq := SeqSt.scen_of_step hse hs
      obtain ⟨c1, c2, c3, -⟩ := hsc k ret hq
      rw [read_handle_scen b c k ret se hse (hf _ c3) c2 c1]
      refine ⟨?_, rfl⟩
      cases se with
      | started => exact absurd rfl hse
      | finished =>
        simp only [SeqSt.step, SeqSt.inScen, Option.ite_none_right_eq_some, Option.some.injEq, Bool.and_eq_true,
          beq_iff_eq] at hs
        obtain ⟨⟨-, ho⟩, rfl⟩ := hs
        exact ⟨by simp [Basic.handle, hi, hq, ho], fun _ => ho, hf, hr, nofun⟩
      | log m =>
        simp only [SeqSt.step, Option.ite_none_right_eq_some, Option.some.injEq] at hs
        obtain ⟨-, rfl⟩ := hs
        exact h
      | hook t r =>
        cases r with
        | started => exact h.opening hs
        | _ => exact h.closing hs
      | bg i r =>
        cases r with
        | started => exact h.opening hs
        | _ => exact h.closing hs
      | step i r =>
        cases r with
        | started => exact h.opening hs
        | _ => exact h.closing hs
  | _ => cases hs; exact ⟨h, rfl⟩

end Cuke.Rep
