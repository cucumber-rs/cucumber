/-! Folds that thread a state: what they emit (`runW`, `basicRun`, `readReport`, `ltRun`), and invariants of a replay with a
    ghost value computed alongside (`accept`, `acceptN`). -/
namespace Cuke
open List

theorem foldl_emit {σ α β} (f : σ → α → σ × List β) (s : σ) (acc : List β) (l : List α) :
    l.foldl (fun a x => ((f a.1 x).1, a.2 ++ (f a.1 x).2)) (s, acc) =
      ((l.foldl (fun a x => ((f a.1 x).1, a.2 ++ (f a.1 x).2)) (s, [])).1,
        acc ++ (l.foldl (fun a x => ((f a.1 x).1, a.2 ++ (f a.1 x).2)) (s, [])).2) := by
  induction l generalizing s acc with
  | nil => simp
  | cons x l ih =>
    simp only [foldl_cons, nil_append]
    rw [ih, ih (acc := (f s x).2), append_assoc]

/-- `filterMap` over a stream, one element at a time, in the form the per-event lemmas give -/
theorem filterMap_cons_toList {α β} (f : α → Option β) (a : α) (l : List α) :
    (a :: l).filterMap f = (f a).toList ++ l.filterMap f := by
  rw [filterMap_cons]
  cases f a <;> rfl

theorem foldl_mono {σ α} (f : σ → α → σ) (C : σ → Prop) (mono : ∀ s a, C (f s a) → C s) :
    ∀ (l : List α) (s : σ), C (l.foldl f s) → C s := by
  intro l
  induction l with
  | nil => exact fun _ h => h
  | cons a l ih => exact fun s h => mono s a (ih _ h)

theorem foldl_ghost_fst {σ γ α} (f : σ → α → σ) (g : σ → γ → α → γ) : ∀ (l : List α) (s : σ) (x : γ),
    (l.foldl (fun sx a => (f sx.1 a, g sx.1 sx.2 a)) (s, x)).1 = l.foldl f s := by
  intro l
  induction l with
  | nil => exact fun _ _ => rfl
  | cons a l ih => exact fun s x => ih _ _

/-- an invariant of the state and a ghost value `g` computed alongside, kept by every step whose result still satisfies
    `C`, holds at the end of every fold whose result satisfies `C`; `mono`: steps can only lose `C` -/
theorem foldl_ghost_inv {σ γ α} (f : σ → α → σ) (g : σ → γ → α → γ) (C : σ → Prop) (mono : ∀ s a, C (f s a) → C s)
    (Inv : σ → γ → Prop) (step : ∀ s x a, Inv s x → C (f s a) → Inv (f s a) (g s x a)) :
    ∀ (l : List α) (s : σ) (x : γ), Inv s x → C (l.foldl f s) →
      Inv (l.foldl f s) (l.foldl (fun sx a => (f sx.1 a, g sx.1 sx.2 a)) (s, x)).2 := by
  intro l
  induction l with
  | nil => exact fun _ _ h _ => h
  | cons a l ih => exact fun s x h hc => ih _ _ (step s x a h (foldl_mono f C mono l _ hc)) hc

theorem foldl_ghost_log {σ α} (f : σ → α → σ) : ∀ (l pre : List α) (s : σ),
    (l.foldl (fun sx a => (f sx.1 a, sx.2 ++ [a])) (s, pre)).2 = pre ++ l := by
  intro l
  induction l with
  | nil => exact fun pre _ => (append_nil pre).symm
  | cons a l ih => exact fun pre s => (ih _ _).trans (append_assoc pre [a] l)

end Cuke
