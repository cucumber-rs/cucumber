import Cuke.Model.StepMatch
/-!
# C17 — Step matching is keyword-scoped, exact about ambiguity, and order independent
-/
namespace Cuke.C17
open Cuke List

theorem natLe_trans (a b c : Nat) : natLe a b = true → natLe b c = true → natLe a c = true := by
  simp [natLe]; omega

theorem natLe_total (a b : Nat) : (natLe a b || natLe b a) = true := by
  simp [natLe]; omega

theorem sort_perm_eq (l₁ l₂ : List Nat) (h : l₁ ~ l₂) : l₁.mergeSort natLe = l₂.mergeSort natLe := by
  apply Perm.eq_of_pairwise (le := fun a b => natLe a b = true)
  · intro a b _ _ h1 h2; simp [natLe] at h1 h2; omega
  · exact pairwise_mergeSort natLe_trans natLe_total l₁
  · exact pairwise_mergeSort natLe_trans natLe_total l₂
  · exact (mergeSort_perm l₁ natLe).trans (h.trans (mergeSort_perm l₂ natLe).symm)

def KeysNodup (c : Coll) : Prop := (c.map (·.1)).Nodup

theorem insert_keys (c : Coll) (k f : Nat) :
    (c.insert k f).map (·.1) = if c.any (fun e => e.1 == k) then c.map (·.1) else c.map (·.1) ++ [k] := by
  unfold Coll.insert
  split
  · simp only [map_map]
    congr 1
    funext e
    simp only [Function.comp]
    split <;> simp_all
  · simp

theorem any_key_iff (c : Coll) (k : Nat) : c.any (fun e => e.1 == k) = true ↔ k ∈ c.map (·.1) := by
  simp only [any_eq_true, beq_iff_eq, mem_map]

theorem insert_nodup (c : Coll) (k f : Nat) (h : KeysNodup c) : KeysNodup (c.insert k f) := by
  unfold KeysNodup at *
  rw [insert_keys]
  split
  · exact h
  · rename_i hk
    rw [any_key_iff] at hk
    refine nodup_append.mpr ⟨h, by simp, ?_⟩
    rintro a ha b hb rfl
    exact hk (mem_singleton.mp hb ▸ ha)

theorem build_nodup (regs : List Reg) (kw : Kw) : KeysNodup (build regs kw) := by
  unfold build
  generalize (regs.filter fun r => r.kw == kw) = rs
  suffices ∀ c : Coll, KeysNodup c → KeysNodup (rs.foldl (fun c r => c.insert r.key r.fn) c) from
    this [] (by simp [KeysNodup])
  induction rs with
  | nil => intro c h; simpa
  | cons r rs ih => intro c h; exact ih _ (insert_nodup c r.key r.fn h)

/-- Only definitions registered under the step's own keyword are considered:
    registrations under other keywords never change the result. -/
theorem find_keyword_scoped (regs : List Reg) (kw : Kw) (m) (names) :
    find regs kw m names = find (regs.filter (fun r => r.kw == kw)) kw m names := by
  simp [find, build, filter_filter]

/-- No definition of this keyword matches ⇒ not found. -/
theorem find_none (iter : Coll) (m) (names) (h : ∀ e ∈ iter, m e.1 = none) :
    findIn iter m names = .none := by
  have : hits iter m = [] := by
    simp only [hits, filter_eq_nil_iff]
    intro e he; simp [h e he]
  simp [findIn, this]

/-- Exactly one matching definition ⇒ it is chosen, with whole match + every group, named, in order,
    `""` for groups that did not participate. -/
theorem find_unique (iter : Coll) (m) (names) (k f : Nat) (c : Caps)
    (hh : hits iter m = [(k, f)]) (hm : m k = some c) :
    findIn iter m names = .one k f ((names k).zip (c.whole :: c.groups.map (fun g => g.getD ""))) := by
  simp [findIn, hh, hm, mkMatches]

/-- Shape of the matches: one entry per capture name; the first is the whole match. -/
theorem find_matches_shape (names : List (Option String)) (c : Caps)
    (hlen : names.length = c.groups.length + 1) :
    (mkMatches names c).length = c.groups.length + 1 ∧
    (mkMatches names c).map (·.2) = c.whole :: c.groups.map (fun g => g.getD "") ∧
    (mkMatches names c).map (·.1) = names := by
  refine ⟨by simp [mkMatches, hlen], ?_, ?_⟩
  · simp only [mkMatches]
    rw [← unzip_snd, unzip_zip (by simp [hlen])]
  · simp only [mkMatches]
    rw [← unzip_fst, unzip_zip (by simp [hlen])]

/-- Two or more ⇒ ambiguity error listing exactly the matching keys, in the deterministic (sorted) order. -/
theorem find_ambiguous (iter : Coll) (m) (names) (h : 2 ≤ (hits iter m).length) :
    ∃ ks, findIn iter m names = .ambiguous ks ∧ ks ~ (hits iter m).map (·.1) ∧
      ks.Pairwise (fun a b => a ≤ b) := by
  refine ⟨((hits iter m).map (·.1)).mergeSort natLe, ?_, mergeSort_perm _ _, ?_⟩
  · unfold findIn
    match hh : hits iter m with
    | [] => simp [hh] at h
    | [_] => simp [hh] at h
    | a :: b :: rest => simp
  · have := pairwise_mergeSort natLe_trans natLe_total ((hits iter m).map (·.1))
    simpa [natLe] using this

/-- The candidates listed are exactly the definitions of this keyword whose regex matches. -/
theorem ambiguous_lists_all (iter : Coll) (m) (names) (ks : List Nat)
    (h : findIn iter m names = .ambiguous ks) (k : Nat) :
    k ∈ ks ↔ ∃ f, (k, f) ∈ iter ∧ (m k).isSome = true := by
  unfold findIn at h
  split at h
  · cases h
  · split at h <;> cases h
  · rename_i hs _ _
    cases h
    simp only [mem_mergeSort, mem_map]
    constructor
    · rintro ⟨e, he, rfl⟩
      simp only [hits, mem_filter] at he
      exact ⟨e.2, he.1, he.2⟩
    · rintro ⟨f, hf, hk⟩
      exact ⟨(k, f), by simp [hits, mem_filter, hf, hk], rfl⟩

theorem singleton_perm {α} (a : α) (l : List α) (h : [a] ~ l) : l = [a] :=
  (List.singleton_perm.mp h).symm

/-- The result does not depend on the order in which the map is iterated. -/
theorem findIn_perm (iter iter' : Coll) (m) (names) (h : iter ~ iter') :
    findIn iter m names = findIn iter' m names := by
  have hp : hits iter m ~ hits iter' m := h.filter _
  unfold findIn
  match hh : hits iter m, hh' : hits iter' m with
  | [], l' =>
    rw [hh, hh'] at hp; cases hp.nil_eq; rfl
  | [e], l' =>
    rw [hh, hh'] at hp
    have := singleton_perm e l' hp; subst this; rfl
  | a :: b :: rest, l' =>
    rw [hh, hh'] at hp
    match l', hp.length_eq with
    | a' :: b' :: rest', _ =>
      simp only
      congr 1
      exact sort_perm_eq _ _ (hp.map _)

theorem build_of_nodup (rs : List Reg) (c : Coll)
    (h : ((c.map (·.1)) ++ rs.map (·.key)).Nodup) :
    rs.foldl (fun c r => c.insert r.key r.fn) c = c ++ rs.map (fun r => (r.key, r.fn)) := by
  induction rs generalizing c with
  | nil => simp
  | cons r rs ih =>
    have hnot : c.any (fun e => e.1 == r.key) = false := by
      rw [Bool.eq_false_iff, Ne, any_key_iff]
      exact fun hc => (nodup_append.mp h).2.2 _ hc r.key (by simp) rfl
    have hins : c.insert r.key r.fn = c ++ [(r.key, r.fn)] := by simp [Coll.insert, hnot]
    simp only [foldl_cons, hins]
    rw [ih]
    · simp
    · simpa [append_assoc] using h

/-- **Registration-order independence.** For registrations whose keys are pairwise distinct within the
    keyword, any permutation of the registration order yields the same `find` result
    (same definition, same function, same matches / same ambiguity list). -/
theorem find_perm_invariant (regs regs' : List Reg) (kw : Kw) (m) (names)
    (hperm : regs ~ regs')
    (hnd : ((regs.filter (fun r => r.kw == kw)).map (·.key)).Nodup) :
    find regs kw m names = find regs' kw m names := by
  have hp : regs.filter (fun r => r.kw == kw) ~ regs'.filter (fun r => r.kw == kw) := hperm.filter _
  have hnd' : ((regs'.filter (fun r => r.kw == kw)).map (·.key)).Nodup := (hp.map _).nodup_iff.mp hnd
  unfold find build
  rw [build_of_nodup _ [] (by simpa using hnd), build_of_nodup _ [] (by simpa using hnd')]
  simp only [nil_append]
  exact findIn_perm _ _ m names (hp.map _)

/-! ## Non-vacuity -/
def exRegs : List Reg := [⟨.given, 2, 20⟩, ⟨.when, 1, 11⟩, ⟨.given, 0, 10⟩, ⟨.given, 1, 12⟩]
def exM : Nat → Option Caps := fun k => if k = 0 ∨ k = 2 then some ⟨"x", [none]⟩ else none
def exNames : Nat → List (Option String) := fun _ => [none, some "n"]

example : 2 ≤ (hits (build exRegs .given) exM).length := by decide
example : find exRegs .when (fun _ => some ⟨"w", [none]⟩) exNames = .one 1 11 [(none, "w"), (some "n", "")] := by decide
example : ((exRegs.filter (fun r => r.kw == Kw.given)).map (·.key)).Nodup := by decide

end Cuke.C17
