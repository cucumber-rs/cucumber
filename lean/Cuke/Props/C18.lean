import Cuke.Model.RetryOpts
/-!
# C18 — Retry options resolve by nearest tag, then CLI, then builder, then defaults
Model: `Cuke.parseFromTags`, `Cuke.parseRetryTag`, `Cuke.mergeCli`, `Cuke.resolveConcurrency`,
`Cuke.resolveFailFast`.
-/
namespace Cuke.C18
open Cuke

theorem stripPrefix_append (p s : List Char) : stripPrefix p (p ++ s) = some s := by
  induction p with
  | nil => cases s <;> simp [stripPrefix]
  | cons a p ih => simp [stripPrefix, ih]

theorem splitOnce_append (c : Char) (a b : List Char) (h : c ∉ a) :
    splitOnce c (a ++ c :: b) = some (a, b) := by
  induction a with
  | nil => simp [splitOnce]
  | cons x a ih =>
    have hx : x ≠ c := by intro e; apply h; simp [e]
    have ha : c ∉ a := by intro e; apply h; simp [e]
    simp [splitOnce, hx, ih ha]

theorem digit_ne_plus (c : Char) (h : isDigit c = true) : c ≠ '+' := by
  intro e; subst e; revert h; decide

theorem digit_ne_rparen (c : Char) (h : isDigit c = true) : c ≠ ')' := by
  intro e; subst e; revert h; decide

theorem parseUsize_digits (ds : List Char) (hne : ds ≠ []) (hd : ds.all isDigit = true)
    (hv : digitsValue ds < usizeMax) : parseUsize ds = some (digitsValue ds) := by
  cases ds with
  | nil => exact absurd rfl hne
  | cons c cs =>
    have hc : isDigit c = true := by simp [List.all_cons] at hd; exact hd.1
    have hplus : c ≠ '+' := digit_ne_plus c hc
    have hsp : stripPlus (c :: cs) = c :: cs := by
      unfold stripPlus
      split
      · rename_i r heq; cases heq; exact absurd rfl hplus
      · rfl
    simp only [parseUsize, hsp]
    simp [hv]
    simpa using hd

theorem rparen_not_mem_digits (ds : List Char) (hd : ds.all isDigit = true) : ')' ∉ ds := by
  intro h
  have := (List.all_eq_true.mp hd) _ h
  exact digit_ne_rparen _ this rfl

theorem parseCount_num (ds rest : List Char) (hne : ds ≠ []) (hd : ds.all isDigit = true)
    (hv : digitsValue ds < usizeMax) :
    parseCount ('(' :: (ds ++ ')' :: rest)) = (some (digitsValue ds), rest) := by
  have h2 := splitOnce_append ')' ds rest (rparen_not_mem_digits ds hd)
  simp [parseCount, stripPrefix, h2, parseUsize_digits ds hne hd hv]

theorem parseCount_noparen (r : List Char) (h : stripPrefix ['('] r = none) :
    parseCount r = (none, r) := by simp [parseCount, h]

theorem parseAfter_ok (dur : List Char → Option Nat) (d x : List Char) (hd : ')' ∉ d) :
    parseAfter dur (afterPfx ++ ('(' :: (d ++ ')' :: x))) = dur d := by
  have h2 := splitOnce_append ')' d x hd
  simp [parseAfter, stripPrefix_append, stripPrefix, h2]

theorem parseAfter_nil (dur : List Char → Option Nat) : parseAfter dur [] = none := by
  simp [parseAfter, afterPfx, stripPrefix]

/-! ## The four documented tag shapes -/

/-- `@retry` : neither a count nor a delay. -/
theorem shape_bare (dur : List Char → Option Nat) :
    parseRetryTag dur retryPfx = some (none, none) := by
  have h : stripPrefix retryPfx retryPfx = some [] := by simpa using stripPrefix_append retryPfx []
  simp [parseRetryTag, h, parseCount, stripPrefix, parseAfter_nil]

/-- `@retry(N)` with `N` a decimal numeral below 2^64: count `N`, no delay. -/
theorem shape_n (dur : List Char → Option Nat) (ds : List Char) (hne : ds ≠ [])
    (hd : ds.all isDigit = true) (hv : digitsValue ds < usizeMax) :
    parseRetryTag dur (retryPfx ++ ('(' :: (ds ++ [')']))) = some (some (digitsValue ds), none) := by
  simp [parseRetryTag, stripPrefix_append, parseCount_num ds [] hne hd hv, parseAfter_nil]

/-- `@retry.after(D)`: no count, delay `parse_duration(D)`. -/
theorem shape_after (dur : List Char → Option Nat) (d : List Char) (hd : ')' ∉ d) :
    parseRetryTag dur (retryPfx ++ (afterPfx ++ ('(' :: (d ++ [')'])))) = some (none, dur d) := by
  have h4 : stripPrefix ['('] (afterPfx ++ ('(' :: (d ++ [')']))) = none := by
    simp [afterPfx, stripPrefix]
  simp [parseRetryTag, stripPrefix_append, parseCount_noparen _ h4, parseAfter_ok dur d [] hd]

/-- `@retry(N).after(D)`: both. -/
theorem shape_n_after (dur : List Char → Option Nat) (ds d : List Char) (hne : ds ≠ [])
    (hds : ds.all isDigit = true) (hv : digitsValue ds < usizeMax) (hd : ')' ∉ d) :
    parseRetryTag dur (retryPfx ++ ('(' :: (ds ++ ')' :: (afterPfx ++ ('(' :: (d ++ [')'])))))) =
      some (some (digitsValue ds), dur d) := by
  simp [parseRetryTag, stripPrefix_append, parseCount_num ds _ hne hds hv, parseAfter_ok dur d [] hd]

/-- A tag that does not start with `retry` is not a retry tag. -/
theorem not_retry_tag (dur : List Char → Option Nat) (tag : List Char)
    (h : stripPrefix retryPfx tag = none) : parseRetryTag dur tag = none := by
  simp [parseRetryTag, h]

/-! ## Malformed payloads degrade as the code does (lemmas with witnesses, not alarms) -/

/-- `@retry(x)`: unparsable count ⇒ treated as bare `@retry`. -/
theorem malformed_count (dur : List Char → Option Nat) :
    parseRetryTag dur (retryPfx ++ ['(', 'x', ')']) = some (none, none) := by
  have hp : parseUsize ['x'] = none := by decide
  have hc : parseCount ['(', 'x', ')'] = (none, ['(', 'x', ')']) := by
    simp [parseCount, stripPrefix, splitOnce, hp]
  have ha : parseAfter dur ['(', 'x', ')'] = none := by simp [parseAfter, afterPfx, stripPrefix]
  simp [parseRetryTag, stripPrefix_append, hc, ha]

/-- `@retryable`: any tag with the prefix behaves as bare `@retry` (crate's recogniser). -/
theorem prefix_only (dur : List Char → Option Nat) :
    parseRetryTag dur (retryPfx ++ ['a', 'b', 'l', 'e']) = some (none, none) := by
  simp [parseRetryTag, parseCount, parseAfter, retryPfx, stripPrefix, afterPfx]

/-! ## Nearest tag: scenario, else rule, else feature; first retry tag in a list wins -/

/-- Within one tag list the first tag with the `retry` prefix decides. -/
theorem first_tag_wins (dur : List Char → Option Nat) (pre : List String) (t : String) (post : List String)
    (hpre : ∀ x ∈ pre, parseRetryTag dur x.toList = none) (o : Option Nat × Option Nat)
    (ht : parseRetryTag dur t.toList = some o) :
    parseRetryTags dur (pre ++ t :: post) = some o := by
  induction pre with
  | nil => simp [parseRetryTags, ht]
  | cons x pre ih =>
    have hx := hpre x (by simp)
    have := ih (fun y hy => hpre y (by simp [hy]))
    simp [parseRetryTags, List.findSome?, hx] at this ⊢
    exact this

/-- What `parse_from_tags` returns once the deciding tag payload `o` is known. -/
def fromPayload (cli : RetryCli) (o : Option Nat × Option Nat) : RetryOptions :=
  { retries := Retries.initial ((o.1.or cli.retry).getD 1), after := o.2.or cli.retryAfter }

/-- A retry tag on the scenario decides, whatever rule and feature carry. -/
theorem nearest_scenario (dur) (cli : RetryCli) (sc : List String) (rule : Option (List String)) (feat : List String)
    (o) (h : parseRetryTags dur sc = some o) :
    parseFromTags dur cli sc rule feat = some (fromPayload cli o) := by
  simp [parseFromTags, h, fromPayload]

/-- No retry tag on the scenario: the rule's decides. -/
theorem nearest_rule (dur) (cli : RetryCli) (sc rt feat : List String)
    (o) (hs : parseRetryTags dur sc = none) (h : parseRetryTags dur rt = some o) :
    parseFromTags dur cli sc (some rt) feat = some (fromPayload cli o) := by
  simp [parseFromTags, hs, h, fromPayload]

/-- Neither scenario nor rule: the feature's decides. -/
theorem nearest_feature (dur) (cli : RetryCli) (sc : List String) (rule : Option (List String)) (feat : List String)
    (o) (hs : parseRetryTags dur sc = none) (hr : rule.bind (parseRetryTags dur) = none)
    (h : parseRetryTags dur feat = some o) :
    parseFromTags dur cli sc rule feat = some (fromPayload cli o) := by
  simp [parseFromTags, hs, hr, h, fromPayload]

/-! ## Fallback chain for the parts a tag omits: CLI, then (via `mergeCli`) builder, then (1, none) -/

theorem fallback_count_tag (cli : RetryCli) (n : Nat) (a : Option Nat) :
    (fromPayload cli (some n, a)).retries = ⟨0, n⟩ := by simp [fromPayload, Retries.initial]

theorem fallback_count_cli (cli : RetryCli) (a : Option Nat) :
    (fromPayload cli (none, a)).retries = ⟨0, cli.retry.getD 1⟩ := by
  simp [fromPayload, Retries.initial]

theorem fallback_after_tag (cli : RetryCli) (n : Option Nat) (d : Nat) :
    (fromPayload cli (n, some d)).after = some d := by simp [fromPayload]

theorem fallback_after_cli (cli : RetryCli) (n : Option Nat) :
    (fromPayload cli (n, none)).after = cli.retryAfter := by simp [fromPayload]

/-- CLI values take precedence over builder values, for each of the three settings. -/
theorem merge_precedence (cli : RunnerCli) (b : Builder) :
    (mergeCli cli b).retry = (match cli.retry with | some r => some r | none => b.retries) ∧
    (mergeCli cli b).retryAfter = (match cli.retryAfter with | some r => some r | none => b.retryAfter) ∧
    (mergeCli cli b).filter = (match cli.retryTagFilter with | some r => some r | none => b.retryFilter) := by
  refine ⟨?_, ?_, ?_⟩ <;> simp [mergeCli] <;> split <;> simp_all

/-- The complete chain on a bare `@retry` tag: CLI → builder → one retry, no delay. -/
theorem fallback_chain_bare (dur) (cli : RunnerCli) (b : Builder) (sc : List String) (rule) (feat)
    (h : parseRetryTags dur sc = some (none, none)) :
    parseFromTags dur (mergeCli cli b) sc rule feat =
      some { retries := ⟨0, ((cli.retry.or b.retries).getD 1)⟩, after := cli.retryAfter.or b.retryAfter } := by
  rw [nearest_scenario dur _ sc rule feat _ h]; simp [fromPayload, mergeCli, Retries.initial]

theorem untagged (dur) (cli : RetryCli) (sc : List String) (rule : Option (List String)) (feat : List String)
    (hs : parseRetryTags dur sc = none) (hr : rule.bind (parseRetryTags dur) = none)
    (hf : parseRetryTags dur feat = none) :
    parseFromTags dur cli sc rule feat =
      if cliMatched cli sc (rule.getD []) feat then
        some { retries := ⟨0, cli.retry.getD 1⟩, after := cli.retryAfter } else none := by
  simp [parseFromTags, hs, hr, hf, Retries.initial]

/-- With a tag filter, an untagged scenario is retried iff its inherited tags satisfy it. -/
theorem untagged_with_filter (cli : RetryCli) (op : TagOp) (h : cli.filter = some op) (sc rt feat : List String) :
    cliMatched cli sc rt feat = op.eval (sc ++ rt ++ feat) := by simp [cliMatched, h]

/-- Without a filter, iff a retry count or delay is configured. -/
theorem untagged_without_filter (cli : RetryCli) (h : cli.filter = none) (sc rt feat : List String) :
    cliMatched cli sc rt feat = (cli.retry.isSome || cli.retryAfter.isSome) := by simp [cliMatched, h]

theorem concurrency_resolution (cli : RunnerCli) (b : Builder) :
    resolveConcurrency cli b = (match cli.concurrency with | some k => some k | none => b.maxConcurrent) := by
  simp [resolveConcurrency]; split <;> simp_all

theorem failfast_resolution (cli : RunnerCli) (b : Builder) :
    resolveFailFast cli b = true ↔ cli.failFast = true ∨ b.failFast = true := by
  simp [resolveFailFast]

/-! ## budget bookkeeping used by C05: attempt k carries current = k, left = N - k -/

theorem nextTry_some (r : Retries) (h : 0 < r.left) :
    r.nextTry = some ⟨r.current + 1, r.left - 1⟩ := by
  simp [Retries.nextTry]; omega

theorem nextTry_none (r : Retries) (h : r.left = 0) : r.nextTry = none := by simp [Retries.nextTry, h]

/-! ## Non-vacuity: a concrete tagged scenario in a rule, CLI and builder both set -/
def exDur : List Char → Option Nat := fun d => if d = ['3', 's'] then some 3000000000 else none

example : parseRetryTag exDur (retryPfx ++ ('(' :: (['5'] ++ ')' :: (afterPfx ++ ('(' :: (['3', 's'] ++ [')'])))))) =
    some (some 5, some 3000000000) := by
  have := shape_n_after exDur ['5'] ['3', 's'] (by simp) (by decide) (by decide) (by decide)
  simpa [digitsValue, exDur] using this

end Cuke.C18
