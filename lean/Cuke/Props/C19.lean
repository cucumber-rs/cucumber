import Cuke.Model.Glue
/-!
# C19 — Step attributes register and dispatch functions as written
The Lean part covers the argument-grouping logic of the generated glue (`Cuke.Glue`). Macro expansion
itself (syn/quote), `inventory` registration, `regex::escape` and `cucumber-expressions` are outside any
model: that part of C19 is decided by the differential over a zoo of annotated functions compiled into
the harness with the real macros (registration table, literal matching, dispatch, parse failures).
-/
namespace Cuke.C19
open Cuke.Glue List

/-- plain groups (no `__n` prefix) are one argument each -/
def Plain (m : Match) : Prop := prefixOf m.1 = none

theorem inGroup_none (m : Match) : inGroup none m = false := by
  simp [inGroup]

theorem group_ends (p : Match → Bool) (rest : List Match) (h : ∀ x, rest.head? = some x → p x = false) :
    rest.takeWhile p = [] ∧ rest.dropWhile p = rest := by
  cases rest with
  | nil => exact ⟨rfl, rfl⟩
  | cons x xs => simp [h x rfl]

theorem takeArg_plain (m : Match) (rest : List Match) (h : Plain m) :
    takeArg (m :: rest) = some (m.2, rest) := by
  unfold Plain at h
  obtain ⟨h1, h2⟩ := group_ends (inGroup none) rest (fun x _ => inGroup_none x)
  simp only [takeArg, h, h1, h2, map_nil]
  cases hm : m.2 with
  | nil => simp [firstNonEmpty]
  | cons c cs => simp [firstNonEmpty]

/-- **One argument per plain group, in order**: with only plain groups, `n` declared arguments receive
    the first `n` capture-group values in declaration order (a group that did not participate is `""`). -/
theorem args_plain (ms : List Match) (n : Nat) (h : ∀ m ∈ ms, Plain m) (hn : n ≤ ms.length) :
    takeArgs n ms = some ((ms.take n).map (·.2)) := by
  induction n generalizing ms with
  | zero => simp [takeArgs]
  | succ n ih =>
    cases ms with
    | nil => simp at hn
    | cons m rest =>
      simp only [takeArgs, takeArg_plain m rest (h m (by simp))]
      rw [ih rest (fun x hx => h x (by simp [hx])) (by simpa using hn)]
      simp

/-- fewer groups than declared arguments: the glue panics ("<arg> not found"), it does not invent values -/
theorem args_missing (ms : List Match) (n : Nat) (h : ∀ m ∈ ms, Plain m) (hn : ms.length < n) :
    takeArgs n ms = none := by
  induction n generalizing ms with
  | zero => omega
  | succ n ih =>
    cases ms with
    | nil => simp [takeArgs, takeArg]
    | cons m rest =>
      simp only [takeArgs, takeArg_plain m rest (h m (by simp))]
      rw [ih rest (fun x hx => h x (by simp [hx])) (by simpa using hn)]
      rfl

/-- **Slice mode** yields all of them. -/
theorem args_slice_plain (ms : List Match) (fuel : Nat) (h : ∀ m ∈ ms, Plain m) (hf : ms.length ≤ fuel) :
    sliceArgs fuel ms = ms.map (·.2) := by
  induction fuel generalizing ms with
  | zero => cases ms with
    | nil => rfl
    | cons m r => simp at hf
  | succ f ih =>
    cases ms with
    | nil => simp [sliceArgs, takeArg]
    | cons m rest =>
      simp only [sliceArgs, takeArg_plain m rest (h m (by simp)), map_cons]
      rw [ih rest (fun x hx => h x (by simp [hx])) (by simpa using hf)]

/-- **Multi-group parameters collapse to one argument**: a head group named `__k_…` followed by `g`
    groups with the same `__k` prefix (and then a group outside it) is consumed as ONE argument whose
    value is the first non-empty one. -/
theorem args_multi_group (m : Match) (grp rest : List Match) (p : Str)
    (hp : prefixOf m.1 = some p) (hg : ∀ x ∈ grp, inGroup (some p) x = true)
    (hr : ∀ x, rest.head? = some x → inGroup (some p) x = false) :
    takeArg (m :: (grp ++ rest)) = some (firstNonEmpty (m.2 :: grp.map (·.2)), rest) := by
  obtain ⟨h1, h2⟩ := group_ends (inGroup (some p)) rest hr
  simp [takeArg, hp, takeWhile_append_of_pos hg, dropWhile_append_of_pos hg, h1, h2]

/-- the value handed over is one of the group's values, the first non-empty one -/
theorem firstNonEmpty_spec (vs : List Str) :
    (firstNonEmpty vs = [] ∧ ∀ v ∈ vs, v = []) ∨
    (∃ pre v post, vs = pre ++ v :: post ∧ (∀ x ∈ pre, x = []) ∧ v ≠ [] ∧ firstNonEmpty vs = v) := by
  induction vs with
  | nil => left; simp [firstNonEmpty]
  | cons s rest ih =>
    cases hs : s with
    | nil =>
      simp only [firstNonEmpty, isEmpty_nil, if_true]
      rcases ih with ⟨h1, h2⟩ | ⟨pre, v, post, h1, h2, h3, h4⟩
      · left; exact ⟨h1, by simpa using h2⟩
      · right; exact ⟨[] :: pre, v, post, by simp [h1], by simpa using h2, h3, h4⟩
    | cons c cs =>
      right
      exact ⟨[], c :: cs, rest, rfl, by simp, by simp, by simp [firstNonEmpty]⟩

/-- a parse failure of a typed argument is a panic (the step fails), never a silently skipped argument -/
theorem parse_failure_panics (ts : List ArgTy) (ss : List Str) (i : Nat) (t : ArgTy) (s : Str)
    (ht : ts[i]? = some t) (hs : ss[i]? = some s) (hp : parseArg t s = none) : parseAll ts ss = none := by
  induction ts generalizing ss i with
  | nil => simp at ht
  | cons t0 ts ih =>
    cases ss with
    | nil => simp at hs
    | cons s0 ss =>
      cases i with
      | zero =>
        simp only [getElem?_cons_zero, Option.some.injEq] at ht hs
        subst ht; subst hs
        simp [parseAll, hp]
      | succ j =>
        simp only [getElem?_cons_succ] at ht hs
        have := ih ss j ht hs
        simp only [parseAll, this]
        cases parseArg t0 s0 <;> rfl

/-- literal attributes: the generated regex is `^escape(l)$`; under `regex::escape`'s contract
    (assumed, tied by the zoo differential) it matches exactly the identical text -/
def literalMatches (l t : Str) : Bool := l == t

theorem literal_iff (l t : Str) : literalMatches l t = true ↔ t = l :=
  beq_iff_eq.trans eq_comm

/-! ## Non-vacuity -/
def n0 : Option Str := some "__0_0".toList
def n1 : Option Str := some "__0_1".toList
example : positional 2 [(none, "whole".toList), (n0, []), (n1, "7".toList), (none, "x".toList)] =
    some ["7".toList, "x".toList] := by decide
example : slice [(none, "w".toList), (none, "1".toList), (none, "2".toList)] = ["1".toList, "2".toList] := by decide
example : parseAll [.u32, .str] ["x1".toList, "a".toList] = none := by decide

end Cuke.C19
