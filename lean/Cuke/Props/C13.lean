import Cuke.Model.Writers
import Cuke.Lemmas.Fold
/-!
# C13 — Writer combinators are transparent: fail_on_skipped, repeat, tee, or
Model: `Cuke.handle`, `Cuke.runW`, `Cuke.writeW`, `Cuke.statsOf` (Cuke/Model/Writers.lean).
All statements hold for every event stream (contract-abiding or not) and every inner pipeline `w`.
-/
namespace Cuke.C13
open Cuke List

def runFrom (cat : Catalog) (w : W) (s : St w) (acc : List Out) (evs : List Ev) : St w × List Out :=
  evs.foldl (fun (a : St w × List Out) e => let r := handle cat w a.1 e; (r.1, a.2 ++ r.2)) (s, acc)

theorem runW_eq_runFrom (cat : Catalog) (w : W) (evs : List Ev) :
    runW cat w evs = runFrom cat w (St.init w) [] evs := rfl

theorem runFrom_cons (cat) (w : W) (s : St w) (acc) (e : Ev) (es : List Ev) :
    runFrom cat w s acc (e :: es) = runFrom cat w (handle cat w s e).1 (acc ++ (handle cat w s e).2) es := rfl

theorem runFrom_append (cat) (w : W) (s : St w) (acc) (es₁ es₂ : List Ev) :
    runFrom cat w s acc (es₁ ++ es₂) =
      runFrom cat w (runFrom cat w s acc es₁).1 (runFrom cat w s acc es₁).2 es₂ := by
  simp [runFrom, foldl_append]

theorem runFrom_acc (cat) (w : W) (s : St w) (acc) (es : List Ev) :
    runFrom cat w s acc es = ((runFrom cat w s [] es).1, acc ++ (runFrom cat w s [] es).2) :=
  foldl_emit (handle cat w) s acc es

/-- `fail_on_skipped` is a per-event map in front of the inner writer: the inner writer sees
    exactly `evs.map f`, in place, nothing added or dropped. -/
theorem fos_is_map (cat : Catalog) (p : FosPred) (w : W) (evs : List Ev) :
    runW cat (.fos p w) evs = runW cat w (evs.map (fosMap (p.eval cat))) := by
  simp only [runW, foldl_map]
  rfl

/-- The map changes exactly the Skipped events of background and regular steps of selected
    scenarios, into Failed-not-found with the same scenario path, step and retry counter. -/
theorem fos_only_skipped (p : ScenKey → Bool) (e : Ev) :
    fosMap p e =
      match e with
      | .scen k ret (.bg i .skipped) => if p k then .scen k ret (.bg i (.failed .notFound)) else e
      | .scen k ret (.step i .skipped) => if p k then .scen k ret (.step i (.failed .notFound)) else e
      | _ => e := by
  unfold fosMap
  split <;> simp_all

/-- Every event that is not a Skipped step event is untouched. -/
theorem fos_untouched (p : ScenKey → Bool) (e : Ev) (h : e.isStepSkipped = false) : fosMap p e = e := by
  rw [fos_only_skipped]
  split
  · cases h
  · cases h
  · rfl

/-- Scenarios not selected by the predicate keep their Skipped events. -/
theorem fos_not_selected (p : ScenKey → Bool) (k : ScenKey) (ret) (se : ScenEv) (h : p k = false) :
    fosMap p (.scen k ret se) = .scen k ret se := by
  cases se with
  | bg i r =>
    cases r with
    | skipped => simp [fosMap, h]
    | _ => rfl
  | step i r =>
    cases r with
    | skipped => simp [fosMap, h]
    | _ => rfl
  | _ => rfl

/-- The default predicate: no `allow.skipped` among scenario, rule and feature tags. -/
theorem fos_default_pred (cat : Catalog) (k : ScenKey) :
    FosPred.default.eval cat k = true ↔
      "allow.skipped" ∉ cat.scenTags k ∧
      (∀ r, k.rule = some r → "allow.skipped" ∉ cat.ruleTags k.feat r) ∧
      "allow.skipped" ∉ cat.featTags k.feat := by
  simp only [FosPred.eval, inheritedTags, Bool.not_eq_true', any_eq_false]
  constructor
  · intro h
    refine ⟨fun hm => ?_, ?_, fun hm => ?_⟩
    · have := h "allow.skipped" (by simp [hm])
      simp at this
    · intro r hr hm
      have := h "allow.skipped" (by simp [hr, hm])
      simp at this
    · have := h "allow.skipped" (by simp [hm])
      simp at this
  · rintro ⟨h1, h2, h3⟩ t ht
    simp only [mem_append] at ht
    simp only [beq_iff_eq]
    rintro rfl
    rcases ht with (ht | ht) | ht
    · exact h1 ht
    · cases hr : k.rule with
      | none => simp [hr] at ht
      | some r => rw [hr] at ht; exact h2 r hr ht
    · exact h3 ht

/-- The stream a `Repeat` hands to its inner writer: every event at once, and right after each
    run-Finished the buffered matching events (original order), after which the buffer is empty. -/
def repExpand (f : Ev → Bool) : List Ev → List Ev → List Ev
  | _, [] => []
  | buf, e :: es =>
    let buf' := if f e then buf ++ [e] else buf
    if e.isFinished then e :: (buf' ++ repExpand f [] es) else e :: repExpand f buf' es

theorem rep_handle (cat) (f : RepFilter) (w : W) (buf : List Ev) (s : St w) (e : Ev) :
    handle cat (.rep f w) (buf, s) e =
      let buf' := if f.eval e then buf ++ [e] else buf
      if e.isFinished then
        let r := runFrom cat w (handle cat w s e).1 (handle cat w s e).2 buf'
        (([], r.1), r.2)
      else ((buf', (handle cat w s e).1), (handle cat w s e).2) := rfl

theorem rep_runFrom (cat) (f : RepFilter) (w : W) (buf : List Ev) (s : St w) (acc) (evs : List Ev) :
    ((runFrom cat (.rep f w) (buf, s) acc evs).1.2, (runFrom cat (.rep f w) (buf, s) acc evs).2) =
      runFrom cat w s acc (repExpand f.eval buf evs) := by
  induction evs generalizing buf s acc with
  | nil => simp [runFrom, repExpand]
  | cons e es ih =>
    rw [runFrom_cons, rep_handle]
    simp only [repExpand]
    by_cases hf : e.isFinished = true
    · simp only [hf, if_true]
      rw [ih, runFrom_cons, runFrom_append]
      -- the replay starts from the same state either way; only what had been emitted before differs
      rw [runFrom_acc cat w (handle cat w s e).1 (handle cat w s e).2,
        runFrom_acc cat w (handle cat w s e).1 (acc ++ (handle cat w s e).2), append_assoc]
    · simp only [hf, Bool.false_eq_true, if_false]
      rw [ih, runFrom_cons]

/-- **Repeat**: the inner writer (whatever it is) sees exactly `repExpand filter [] evs`. -/
theorem repeat_output (cat) (f : RepFilter) (w : W) (evs : List Ev) :
    ((runW cat (.rep f w) evs).1.2, (runW cat (.rep f w) evs).2) = runW cat w (repExpand f.eval [] evs) := by
  rw [runW_eq_runFrom, runW_eq_runFrom]
  exact rep_runFrom cat f w [] (St.init w) [] evs

theorem repExpand_no_finished (f : Ev → Bool) (buf : List Ev) (evs : List Ev)
    (h : ∀ e ∈ evs, e.isFinished = false) : repExpand f buf evs = evs := by
  induction evs generalizing buf with
  | nil => rfl
  | cons e es ih =>
    have he := h e (by simp)
    simp [repExpand, he, ih _ (fun x hx => h x (by simp [hx]))]

theorem repExpand_prefix (f : Ev → Bool) (buf pre rest : List Ev)
    (h : ∀ e ∈ pre, e.isFinished = false) (fin : Ev) (hfin : fin.isFinished = true) :
    repExpand f buf (pre ++ fin :: rest) =
      pre ++ fin :: ((buf ++ (pre ++ [fin]).filter f) ++ repExpand f [] rest) := by
  induction pre generalizing buf with
  | nil =>
    simp only [nil_append, repExpand, hfin, if_true, filter_cons, filter_nil]
    split <;> simp
  | cons e es ih =>
    have he := h e (by simp)
    simp only [cons_append, repExpand, he, Bool.false_eq_true, if_false]
    rw [ih _ (fun x hx => h x (by simp [hx]))]
    by_cases hfe : f e = true <;> simp [hfe, filter_cons, append_assoc]

/-- Explicit form for a stream with one run-Finished: everything up to and including it passes
    through unchanged and in order, then exactly the matching events are re-emitted once, in
    original order, and later events pass through unchanged (nothing is re-emitted again). -/
theorem repeat_once (f : Ev → Bool) (pre post : List Ev)
    (hpre : ∀ e ∈ pre, e.isFinished = false) (hpost : ∀ e ∈ post, e.isFinished = false) :
    repExpand f [] (pre ++ Ev.finished :: post) =
      pre ++ [Ev.finished] ++ (pre ++ [Ev.finished]).filter f ++ post := by
  rw [repExpand_prefix f [] pre post hpre Ev.finished rfl, repExpand_no_finished f [] post hpost]
  simp [append_assoc]

/-- The two built-in filters, `Repeat::skipped` and `Repeat::failed`. -/
theorem repeat_filters (e : Ev) :
    (RepFilter.skipped.eval e = e.isStepSkipped) ∧
    (RepFilter.failed.eval e = (e.isStepFailed || e.isHookFailed || e.isParseErr)) := ⟨rfl, rfl⟩

/-- Both sides of a `Tee` see the same stream: each side's state is what it would be alone. -/
theorem tee_same_stream (cat) (l r : W) (evs : List Ev) :
    (runW cat (.tee l r) evs).1 = ((runW cat l evs).1, (runW cat r evs).1) := by
  suffices ∀ (sl : St l) (sr : St r) acc accl accr,
      (runFrom cat (.tee l r) (sl, sr) acc evs).1 =
        ((runFrom cat l sl accl evs).1, (runFrom cat r sr accr evs).1) from this _ _ [] [] []
  induction evs with
  | nil => intros; rfl
  | cons e es ih => intro sl sr acc accl accr; simp only [runFrom_cons]; exact ih _ _ _ _ _

/-- Per event, a `Tee` delivers to the left pipeline then to the right one, each exactly as if alone. -/
theorem tee_per_event (cat) (l r : W) (sl : St l) (sr : St r) (e : Ev) :
    (handle cat (.tee l r) (sl, sr) e).2 = (handle cat l sl e).2 ++ (handle cat r sr e).2 := rfl

/-- Arbitrary writes go to both sides. -/
theorem tee_write (l r : W) (v : WVal) : writeW (.tee l r) v = writeW l v ++ writeW r v := rfl

/-- Tee statistics are the pointwise maximum. -/
theorem tee_stats_max (l r : W) (sl : St l) (sr : St r) :
    statsOf (.tee l r) (sl, sr) = (statsOf l sl).max (statsOf r sr) := rfl

theorem or_handle (cat) (c : OrPred) (l r : W) (sl : St l) (sr : St r) (e : Ev) :
    handle cat (.or c l r) (sl, sr) e =
      if c.eval e then (((handle cat l sl e).1, sr), (handle cat l sl e).2)
      else ((sl, (handle cat r sr e).1), (handle cat r sr e).2) := rfl

/-- Each event goes to exactly the side the predicate selects: the left pipeline's state is what it
    would be on the selected sub-stream alone, the right one's on the complement. -/
theorem or_partition (cat) (c : OrPred) (l r : W) (evs : List Ev) :
    (runW cat (.or c l r) evs).1 =
      ((runW cat l (evs.filter c.eval)).1, (runW cat r (evs.filter (fun e => !c.eval e))).1) := by
  suffices ∀ (sl : St l) (sr : St r) acc accl accr,
      (runFrom cat (.or c l r) (sl, sr) acc evs).1 =
        ((runFrom cat l sl accl (evs.filter c.eval)).1,
         (runFrom cat r sr accr (evs.filter (fun e => !c.eval e))).1) from this _ _ [] [] []
  induction evs with
  | nil => intros; rfl
  | cons e es ih =>
    intro sl sr acc accl accr
    by_cases hc : c.eval e = true
    · simp only [filter_cons, hc, if_true, Bool.not_true, Bool.false_eq_true, if_false, runFrom_cons]
      rw [or_handle, if_pos hc]; exact ih _ _ _ _ _
    · have hc' : c.eval e = false := by simpa using hc
      simp only [filter_cons, hc', Bool.false_eq_true, if_false, Bool.not_false, if_true, runFrom_cons]
      rw [or_handle, if_neg hc]; exact ih _ _ _ _ _

/-- Per event: delivered to the selected side only. -/
theorem or_per_event (cat) (c : OrPred) (l r : W) (sl : St l) (sr : St r) (e : Ev) :
    (handle cat (.or c l r) (sl, sr) e).2 =
      if c.eval e then (handle cat l sl e).2 else (handle cat r sr e).2 := by
  rw [or_handle]; split <;> rfl

/-- Or statistics are the pointwise sum. -/
theorem or_stats_sum (c : OrPred) (l r : W) (sl : St l) (sr : St r) :
    statsOf (.or c l r) (sl, sr) = (statsOf l sl).add (statsOf r sr) := rfl

/-- one call of `Normalize<w>`: the inner writer is fed exactly what the queue model releases -/
theorem norm_handle (cat) (w : W) (n n' : Norm) (s : St w) (e : Ev) (out : List Ev)
    (h : n.handle e = some (n', out)) :
    handle cat (.norm w) (some n, s) e = ((some n', (runFrom cat w s [] out).1), (runFrom cat w s [] out).2) := by
  show (match n.handle e with
    | none => ((none, s), [])
    | some (n', outs) => ((some n', (runFrom cat w s [] outs).1), (runFrom cat w s [] outs).2)) = _
  rw [h]

/-- **`Normalize` is a pre-filter**: on a stream on which `Normalize` hits no panic branch, the inner
    pipeline `w` behaves exactly as if it had been fed the re-ordered stream (`normRun`'s output) directly —
    same leaf records, same state (hence same statistics and verdict). What that re-ordered stream is, is
    C11's subject (`C11.norm_T1_perm`: a permutation of the input). -/
theorem norm_prefilter_from (cat) (w : W) (n n' : Norm) (s : St w) (acc : List Out) (evs : List Ev) (outs : List (List Ev))
    (h : normRun n evs = some (n', outs)) :
    runFrom cat (.norm w) (some n, s) acc evs =
      ((some n', (runFrom cat w s [] outs.flatten).1), acc ++ (runFrom cat w s [] outs.flatten).2) := by
  induction evs generalizing n s acc outs with
  | nil =>
    simp only [normRun, Option.some.injEq, Prod.mk.injEq] at h
    obtain ⟨rfl, rfl⟩ := h
    simp [runFrom]
  | cons e es ih =>
    simp only [normRun] at h
    cases hh : n.handle e with
    | none => simp [hh] at h
    | some r =>
      obtain ⟨n1, out⟩ := r
      simp only [hh] at h
      cases hr : normRun n1 es with
      | none => simp [hr] at h
      | some r2 =>
        obtain ⟨n2, outs2⟩ := r2
        simp only [hr, Option.some.injEq, Prod.mk.injEq] at h
        obtain ⟨rfl, rfl⟩ := h
        rw [runFrom_cons, norm_handle cat w n n1 s e out hh]
        rw [ih n1 _ _ outs2 hr]
        simp only [flatten_cons]
        rw [runFrom_append cat w s [] out outs2.flatten]
        rw [runFrom_acc cat w (runFrom cat w s [] out).1 (runFrom cat w s [] out).2 outs2.flatten]
        simp [append_assoc]

theorem norm_prefilter (cat) (w : W) (evs : List Ev) (n : Norm) (outs : List (List Ev))
    (h : normRun Norm.init evs = some (n, outs)) :
    runW cat (.norm w) evs = ((some n, (runW cat w outs.flatten).1), (runW cat w outs.flatten).2) := by
  rw [runW_eq_runFrom, runW_eq_runFrom]
  have := norm_prefilter_from cat w Norm.init n (St.init w) [] evs outs h
  simpa [St.init] using this

/-- `Normalize` forwards `Arbitrary::write`, the `Stats` getters and the verdict untouched. -/
theorem norm_identity (w : W) (v : WVal) (ns : Option Norm) (s : St w) :
    writeW (.norm w) v = writeW w v ∧ statsOf (.norm w) (ns, s) = statsOf w s ∧
    execFailed (.norm w) (ns, s) = execFailed w s := ⟨rfl, rfl, rfl⟩

/-- `AssertNormalized` / `discard::*` do not touch events, writes or statistics. -/
theorem pass_identity (cat) (w : W) (evs : List Ev) (v : WVal) (s : St w) :
    runW cat (.pass w) evs = runW cat w evs ∧ writeW (.pass w) v = writeW w v ∧
    statsOf (.pass w) s = statsOf w s ∧ execFailed (.pass w) s = execFailed w s := ⟨rfl, rfl, rfl, rfl⟩

/-- A recording leaf receives exactly the events fed, in order. -/
theorem leaf_records (cat) (i : Nat) (evs : List Ev) :
    (runW cat (.leaf i) evs).2 = evs.map (Out.ev i) := by
  suffices ∀ s acc, (runFrom cat (.leaf i) s acc evs).2 = acc ++ evs.map (Out.ev i) from by
    rw [runW_eq_runFrom, this]; simp
  induction evs with
  | nil => intros; simp [runFrom]
  | cons e es ih =>
    intro s acc
    rw [runFrom_cons, ih]
    show acc ++ [Out.ev i e] ++ _ = _
    simp

/-! ## Non-vacuity: concrete pipeline and stream -/
def exCat : Catalog :=
  { featTags := fun _ => [], ruleTags := fun _ _ => [], scenTags := fun k => if k.scen = 2 then ["allow.skipped"] else [],
    nsteps := fun _ => 1 }
def k1 : ScenKey := ⟨0, none, 1⟩
def k2 : ScenKey := ⟨0, none, 2⟩
def exEvs : List Ev := [.scen k1 none (.step 0 .skipped), .scen k2 none (.step 0 .skipped), .finished]

example : (runW exCat (.fos .default (.rep .failed (.leaf 7))) exEvs).2 =
    [.ev 7 (.scen k1 none (.step 0 (.failed .notFound))), .ev 7 (.scen k2 none (.step 0 .skipped)), .ev 7 .finished,
     .ev 7 (.scen k1 none (.step 0 (.failed .notFound)))] := by decide

end Cuke.C13
