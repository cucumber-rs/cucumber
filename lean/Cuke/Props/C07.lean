import Cuke.Lemmas.Sched
import Cuke.Model.SchedMon
import Cuke.Lemmas.SchedSerial
import Cuke.Lemmas.SchedSpin
/-!
# C07 — @serial scenarios run in isolation from every other scenario
Model: `Cuke.getBatch` (serial preference, one at a time), `Cuke.isSerial`, the scheduler LTS, and the
monitor `Cuke.SMon.isolation` (the property's wording on a run log).

The full statement is FALSE of the code (finding F-C07): `get` hands out a ready Serial entry without
looking at what is in flight. What IS proved: serial entries are only ever dispatched alone and first.
-/
namespace Cuke.C07
open Cuke List Cuke.SchedL Cuke.SMon

/-- Classification: the default looks for the `serial` tag on scenario, rule or feature. -/
theorem serial_by_tag (c : SCfg) (h : c.customWhich = false) (sc rt ft : List String) :
    isSerial c sc rt ft = true ↔ "serial" ∈ sc ∨ "serial" ∈ rt ∨ "serial" ∈ ft := by
  simp [isSerial, h]

/-- **A Serial entry is never dispatched together with anything else**: a batch that contains a Serial
    entry is that single entry. (Queues hold Serial entries only in `serial`, Concurrent only in `conc`.) -/
theorem getBatch_serial_alone (ready : Entry → Bool) (ask : Option Nat) (q : Queues)
    (hq : ∀ e ∈ q.conc, e.serial = false)
    (e : Entry) (he : e ∈ (getBatch ready ask q).1) (hs : e.serial = true) :
    (getBatch ready ask q).1 = [e] := by
  unfold getBatch at he ⊢
  by_cases h0 : (ask == some 0) = true
  · simp [h0] at he
  · simp only [h0, Bool.false_eq_true, if_false] at he ⊢
    by_cases hne : (drainQ ready (some 1) q.serial).1.isEmpty = true
    · simp only [hne, Bool.not_true, Bool.false_eq_true, if_false] at he ⊢
      have := (drainQ_sublist ready ask q.conc).1.subset he
      rw [hq e this] at hs; cases hs
    · simp only [hne, Bool.not_false, if_true] at he ⊢
      have hl := drainQ_length_le ready 1 q.serial
      match hd : (drainQ ready (some 1) q.serial).1, hl with
      | [x], _ => rw [hd] at he; simp at he; rw [he]
      | [], _ => simp [hd] at hne

/-- **Serial preference**: if a Serial entry is ready (and `get` may hand out anything), the batch is a
    single Serial entry — Concurrent ones wait. -/
theorem getBatch_serial_first (ready : Entry → Bool) (ask : Option Nat) (q : Queues) (h0 : ask ≠ some 0)
    (hs : ∃ e ∈ q.serial, ready e = true) :
    ∃ e ∈ q.serial, (getBatch ready ask q).1 = [e] ∧ ready e = true := by
  have hz : (ask == some 0) = false := by simpa using h0
  have hne : (drainQ ready (some 1) q.serial).1 ≠ [] := by
    intro hnil
    obtain ⟨e, he, hr⟩ := hs
    have := drainQ_maximal ready 1 q.serial (by simp [hnil])
    have hperm := drainQ_perm ready (some 1) q.serial
    rw [hnil, nil_append] at hperm
    have := this e (hperm.symm.subset he)
    rw [hr] at this; cases this
  have hl := drainQ_length_le ready 1 q.serial
  match hd : (drainQ ready (some 1) q.serial).1, hl, hne with
  | [x], _, _ =>
    refine ⟨x, (drainQ_sublist ready (some 1) q.serial).1.subset (by rw [hd]; simp), ?_, drainQ_all_ready ready _ _ x (by rw [hd]; simp)⟩
    simp [getBatch, hz, hd]

/-- In the LTS nothing is dispatched between a dispatch and the consumption of a completion
    (`execute` awaits `run_scenarios.next()`): a `get` in phase `selecting` is a class-I disagreement.
    Hence a Serial attempt dispatched while NOTHING is in flight stays alone until it ends. -/
theorem no_get_while_selecting (c : SCfg) (s : SState) (t : Nat) (ask : Option Nat) (ns nc : Nat)
    (h : s.phase = .selecting) :
    (stepL c s (.get1 t ask ns nc)).dis.any (fun d => d.cls == .I) = true := by
  rw [SchedStep.any_cls_step (· == .I)]
  simp [SchedStep.fails, SchedStep.miss, h]

/-! ## The full statement is false of the code (finding F-C07) -/

def f1 : SFeat := { id := 1, tags := [], scens := [⟨2, [], 0⟩, ⟨3, [], 0⟩], rules := [] }
def f4 : SFeat := { id := 4, tags := [], scens := [⟨5, ["serial"], 0⟩], rules := [] }
def wcfg : SCfg :=
  { builderConc := some (some 2), cliConc := none, builderFF := false, cliFF := false, builderRetries := none,
    cliRetries := none, builderAfter := none, cliAfter := none, customWhich := false, durTable := [], feats := [f1, f4] }

def k2 : ScenKey := ⟨1, none, 2⟩
def k3 : ScenKey := ⟨1, none, 3⟩
def k5 : ScenKey := ⟨4, none, 5⟩

/-- A lazy parser delivers the feature with the `@serial` scenario after two concurrent scenarios were
    dispatched; when the first of them completes, `get` returns the serial one. -/
def witness : List Label :=
  [.pOk 1, .ins 10 [] [⟨10, 2, none, none⟩, ⟨11, 3, none, none⟩], .pPend,
   .hookTake, .tx .started,
   .get1 20 (some 2) 0 2, .get2 21 (.cont (some 2)) [10, 11] false 0, .tx (.featStarted 1), .disp 2 (.cont (some 0)),
   .tx (.scen k2 none .started), .tx (.scen k3 none .started),
   .pWake, .pOk 4, .ins 30 [⟨12, 5, none, none⟩] [], .pEnd, .tx (.parsingFinished 2 0 3 0 0), .pFinish,
   .tx (.scen k2 none .finished), .endA 10 false false 40, .cons true, .notif 10 false false,
   .get1 50 (some 1) 1 0, .get2 51 (.cont (some 1)) [12] false 1, .tx (.featStarted 4), .disp 1 (.cont (some 0)),
   .tx (.scen k5 none .started)]

/-- The scheduler model (= the code, by the trace correspondence) accepts this run without any
    disagreement … -/
theorem witness_accepted : (accept wcfg witness).dis.isEmpty = true := by decide +kernel

/-- … and in it the serial attempt (5) starts while the concurrent attempt (3) is still in flight. -/
theorem witness_violates : (isolation wcfg witness).isSome = true := by decide +kernel

/-- The property's full statement, on run logs the model accepts. -/
def C07_full : Prop :=
  ∀ (c : SCfg) (ls : List Label), (accept c ls).dis.isEmpty = true → isolation c ls = none

/-- **The full statement is false** (finding F-C07). -/
theorem C07_full_false : ¬ C07_full := by
  intro h
  have := h wcfg witness witness_accepted
  have hv := witness_violates
  rw [this] at hv
  cases hv

/-- the witness is an instance of the listed cause pattern (a Serial entry delivered late by the parser
    is handed out while another scenario is in flight), so the known-finding matcher explains it -/
theorem witness_is_known_pattern : knownC07 wcfg witness (isolation wcfg witness) = some "F-C07" := by
  decide +kernel


/-! `Good` = the log raised no disagreement of the classes K (slot accounting), I (program order of `execute`),
Q (queue discipline); the invariant behind the next three theorems is `SchedSerial.alone_run`. -/

open Cuke.SchedSerial Cuke.SchedInv in
/-- **An attempt dispatched into an empty runner runs alone until it ends.** Take any run log `pre`, then a
    dispatch of the single entry `e` while nothing is running and no completion is waiting to be consumed, then
    any continuation `mid` that does not contain the end of that attempt: if the LTS replays the whole log
    without a K / I / Q disagreement, then at its end `e` is still the only attempt in flight — nothing else was
    dispatched, however the parser, the clock and the other labels interleave. -/
theorem lts_alone_until_end (c : SCfg) (pre mid : List Label) (n : Nat) (sl : Slots) (e : Entry)
    (hb : (accept c pre).batch = [e]) (hr : (accept c pre).running = []) (he : (accept c pre).endedUnconsumed = 0)
    (hno : ∀ l ∈ mid, ∀ f r t, l ≠ .endA e.id f r t)
    (hg : Good (accept c (pre ++ [.disp n sl] ++ mid)) = true) :
    (accept c (pre ++ [.disp n sl] ++ mid)).running = [e] ∧
    (accept c (pre ++ [.disp n sl] ++ mid)).batch = [] := by
  rw [SchedOrd.accept_append, SchedOrd.accept_snoc] at hg ⊢
  have h0 := alone_after_dispatch c (accept c pre) n sl e hb hr he
  have := alone_run c e mid _ h0 hno hg
  exact ⟨this.1, this.2.2.2⟩

open Cuke.SchedSerial Cuke.SchedInv in
/-- … in particular no further dispatch is accepted before that attempt has ended -/
theorem lts_no_dispatch_while_alone (c : SCfg) (pre mid : List Label) (n n' : Nat) (sl sl' : Slots) (e : Entry)
    (hb : (accept c pre).batch = [e]) (hr : (accept c pre).running = []) (he : (accept c pre).endedUnconsumed = 0)
    (hno : ∀ l ∈ mid, ∀ f r t, l ≠ .endA e.id f r t) :
    Good (accept c (pre ++ [.disp n sl] ++ mid ++ [.disp n' sl'])) = false := by
  cases hgood : Good (accept c (pre ++ [.disp n sl] ++ mid ++ [.disp n' sl'])) with
  | false => rfl
  | true =>
    exfalso
    rw [SchedOrd.accept_snoc, SchedOrd.accept_append, SchedOrd.accept_snoc] at hgood
    have hal := alone_run c e mid _ (alone_after_dispatch c (accept c pre) n sl e hb hr he) hno
      (good_step_mono c _ _ hgood)
    have := disp_afterGet2 c _ n' sl' hgood
    rw [hal.2.2.1] at this
    cases this

/-! non-vacuity: a serial scenario handed out while nothing is in flight; the hypotheses of
    `lts_alone_until_end` hold for this log with a non-empty continuation -/
def scfg : SCfg :=
  { builderConc := some (some 2), cliConc := none, builderFF := false, cliFF := false, builderRetries := none,
    cliRetries := none, builderAfter := none, cliAfter := none, customWhich := false, durTable := [], feats := [f4] }
def spre : List Label :=
  [.hookTake, .tx .started, .pOk 4, .ins 0 [⟨12, 5, none, none⟩] [], .pEnd, .tx (.parsingFinished 1 0 1 0 0), .pFinish,
   .get1 1 (some 2) 1 0, .get2 1 (.cont (some 2)) [12] false 0, .tx (.featStarted 4)]
def smid : List Label := [.tx (.scen k5 none .started), .poll, .envMove, .tx (.scen k5 none (.step 0 .started))]

example : (accept scfg spre).batch.map (fun e => (e.id, e.serial)) = [(12, true)] ∧ (accept scfg spre).running = [] ∧
    (accept scfg spre).endedUnconsumed = 0 ∧
    Cuke.SchedInv.Good (accept scfg (spre ++ [.disp 1 (.cont (some 1))] ++ smid)) = true ∧
    (accept scfg (spre ++ [.disp 1 (.cont (some 1))] ++ smid)).running.map (·.id) = [12] := by decide +kernel

open Cuke.SchedSerial Cuke.SchedInv Cuke.SchedSpin in
/-- **While an attempt runs alone, only ITS user code runs.** As in `lts_alone_until_end`: the single entry `e` is
    dispatched into an empty runner, then any continuation `mid` without the end of that attempt. If user code — a
    step, a hook, `World::new` — is then entered (label `cbIn`) and the whole log is replayed without a disagreement,
    that code belongs to `e`'s scenario: no other scenario's step, hook or World code runs while the serial attempt is
    in flight. (The acceptor accepts `cbIn` only for an attempt that is dispatched and not yet ended.) -/
theorem lts_only_own_user_code_while_alone (c : SCfg) (pre mid : List Label) (n : Nat) (sl : Slots) (e : Entry)
    (sc att t : Nat)
    (hb : (accept c pre).batch = [e]) (hr : (accept c pre).running = []) (he : (accept c pre).endedUnconsumed = 0)
    (hno : ∀ l ∈ mid, ∀ f r t, l ≠ .endA e.id f r t)
    (hc : SchedOrd.Clean0 (accept c (pre ++ [.disp n sl] ++ mid ++ [.cbIn sc att t])) = true) :
    sc = e.key.scen := by
  rw [SchedOrd.accept_snoc] at hc
  have hc0 : SchedOrd.Clean0 (accept c (pre ++ [.disp n sl] ++ mid)) = true := SchedOrd.clean0_step_mono c _ _ hc
  have hg : Good (accept c (pre ++ [.disp n sl] ++ mid)) = true := (SchedOrd.clean0_all _ hc0).1
  have hal := (lts_alone_until_end c pre mid n sl e hb hr he hno hg).1
  obtain ⟨_, e', he', hsc, _⟩ := cbIn_clean hc
  rw [hal] at he'
  have : e' = e := by simpa using he'
  rw [← hsc, this]

end Cuke.C07
