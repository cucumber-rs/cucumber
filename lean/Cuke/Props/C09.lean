import Cuke.Model.Attempt
import Cuke.Props.C02
/-!
# C09 — World lifecycle and hook contract within an attempt
Model: the `calls` log of `Cuke.runAttempt` — every invocation of user code with the World it got.
-/
namespace Cuke.C09
open Cuke List

def isWorldNew : Call → Bool
  | .worldNew _ => true
  | _ => false

def isAfter : Call → Bool
  | .after _ _ => true
  | _ => false

/-- `(world id, mutation counter seen)` of a before-hook or step invocation -/
def userOf : Call → Option (Nat × Nat)
  | .before w s => some (w, s)
  | .step _ _ w s => some (w, s)
  | _ => none

def nUser (cs : List Call) : Nat := (cs.filterMap userOf).length
def nNew (cs : List Call) : Nat := (cs.filter isWorldNew).length

/-- the j-th user-code invocation works on World `wid` and sees exactly `j` earlier mutations -/
def Threaded (wid : Nat) (cs : List Call) : Prop :=
  cs.filterMap userOf = (List.range (nUser cs)).map (fun j => (wid, j))

/-- what holds of every state, running or stopped -/
structure Fin (sp : AttemptSpec) (wid : Nat) (st : ASt) : Prop where
  threaded : Threaded wid st.calls
  world : ∀ w c, st.world = some (w, c) → w = wid ∧ c = nUser st.calls
  noWorld : st.world = none → nUser st.calls = 0
  newCount : nNew st.calls ≤ 1
  hasNew : st.world.isSome = true → nNew st.calls = 1
  noAfter : st.calls.filter isAfter = []
  created : sp.init = .ok → nNew st.calls = 1 → st.world.isSome = true

/-- additionally, while the attempt has not been stopped: no World ⇒ `World::new` not yet called -/
structure Inv (sp : AttemptSpec) (wid : Nat) (st : ASt) : Prop extends Fin sp wid st where
  noNew : st.world = none → nNew st.calls = 0

theorem nUser_snoc (cs : List Call) (c : Call) :
    nUser (cs ++ [c]) = nUser cs + (if (userOf c).isSome then 1 else 0) := by
  unfold nUser
  cases h : userOf c <;> simp [filterMap_append, h]

theorem nNew_snoc (cs : List Call) (c : Call) :
    nNew (cs ++ [c]) = nNew cs + (if isWorldNew c then 1 else 0) := by
  unfold nNew
  cases h : isWorldNew c <;> simp [filter_append, h]

theorem threaded_snoc_user (wid : Nat) (cs : List Call) (c : Call) (h : Threaded wid cs)
    (hc : userOf c = some (wid, nUser cs)) : Threaded wid (cs ++ [c]) := by
  unfold Threaded at *
  rw [nUser_snoc]
  simp only [hc, Option.isSome_some, if_true]
  simp only [filterMap_append, filterMap_cons, hc, filterMap_nil]
  rw [List.range_succ, map_append, ← h]
  simp

theorem threaded_snoc_other (wid : Nat) (cs : List Call) (c : Call) (h : Threaded wid cs)
    (hc : userOf c = none) : Threaded wid (cs ++ [c]) := by
  unfold Threaded at *
  rw [nUser_snoc]
  simpa [filterMap_append, hc] using h

theorem inv_st0 (sp : AttemptSpec) (wid : Nat) : Inv sp wid st0 := by
  refine ⟨⟨?_, ?_, ?_, ?_, ?_, ?_, ?_⟩, ?_⟩ <;> simp [st0, Threaded, nUser, nNew]

theorem inv_new_ok (sp : AttemptSpec) (wid : Nat) (st : ASt) (h : Inv sp wid st) (hw : st.world = none) (o : InitOut) :
    Inv sp wid { st with calls := st.calls ++ [Call.worldNew o], world := some (wid, 0) } := by
  have hu := h.noWorld hw
  have hn := h.noNew hw
  refine ⟨⟨?_, ?_, ?_, ?_, ?_, ?_, ?_⟩, ?_⟩
  · exact threaded_snoc_other wid _ _ h.threaded rfl
  · intro w c hwc
    simp only [Option.some.injEq, Prod.mk.injEq] at hwc
    obtain ⟨rfl, rfl⟩ := hwc
    simp [nUser_snoc, userOf, hu]
  · exact nofun
  · simp [nNew_snoc, isWorldNew, hn]
  · intro _; simp [nNew_snoc, isWorldNew, hn]
  · simp [filter_append, isAfter, h.noAfter]
  · intro _ _; simp
  · exact nofun

theorem fin_new_fail (sp : AttemptSpec) (wid : Nat) (st : ASt) (h : Inv sp wid st) (hw : st.world = none) (o : InitOut)
    (ho : sp.init ≠ .ok) :
    Fin sp wid { st with calls := st.calls ++ [Call.worldNew o] } := by
  have hu := h.noWorld hw
  have hn := h.noNew hw
  refine ⟨?_, ?_, ?_, ?_, ?_, ?_, ?_⟩
  · exact threaded_snoc_other wid _ _ h.threaded rfl
  · intro w c hwc; simp [hw] at hwc
  · intro _; simp [nUser_snoc, userOf, hu]
  · simp [nNew_snoc, isWorldNew, hn]
  · simp [hw]
  · simp [filter_append, isAfter, h.noAfter]
  · intro hok; exact absurd hok ho

theorem inv_user (sp : AttemptSpec) (wid : Nat) (st : ASt) (h : Inv sp wid st) (w c : Nat) (hw : st.world = some (w, c))
    (call : Call) (hc : userOf call = some (w, c)) (hnn : isWorldNew call = false) (hna : isAfter call = false) :
    Inv sp wid { st with calls := st.calls ++ [call], world := some (w, c + 1) } := by
  obtain ⟨rfl, rfl⟩ := h.world w c hw
  have h1 := h.hasNew (by simp [hw])
  refine ⟨⟨?_, ?_, ?_, ?_, ?_, ?_, ?_⟩, ?_⟩
  · exact threaded_snoc_user _ _ _ h.threaded hc
  · intro w' c' hwc
    simp only [Option.some.injEq, Prod.mk.injEq] at hwc
    obtain ⟨rfl, rfl⟩ := hwc
    simp [nUser_snoc, hc]
  · exact nofun
  · simp [nNew_snoc, hnn, h1]
  · intro _; simp [nNew_snoc, hnn, h1]
  · simp [filter_append, hna, h.noAfter]
  · intro _ _; simp
  · exact nofun

theorem evs_irrelevant_inv (sp : AttemptSpec) (wid : Nat) (st : ASt) (evs : List ScenEv) (h : Inv sp wid st) : Inv sp wid { st with evs := evs } :=
  ⟨⟨h.threaded, h.world, h.noWorld, h.newCount, h.hasNew, h.noAfter, h.created⟩, h.noNew⟩

theorem evs_irrelevant_fin (sp : AttemptSpec) (wid : Nat) (st : ASt) (evs : List ScenEv) (h : Fin sp wid st) : Fin sp wid { st with evs := evs } :=
  ⟨h.threaded, h.world, h.noWorld, h.newCount, h.hasNew, h.noAfter, h.created⟩

theorem ensureWorld_inv (sp : AttemptSpec) (wid : Nat) (st : ASt) (h : Inv sp wid st) :
    if (ensureWorld sp wid st).2 then Inv sp wid (ensureWorld sp wid st).1 ∧ (ensureWorld sp wid st).1.world.isSome = true
    else Fin sp wid (ensureWorld sp wid st).1 := by
  unfold ensureWorld
  split
  · rename_i hw
    exact ⟨h, by simp [hw]⟩
  · rename_i hw
    split
    · exact ⟨inv_new_ok sp wid st h hw sp.init, rfl⟩
    · rename_i hinit
      exact fin_new_fail sp wid st h hw sp.init hinit

theorem callStep_inv (sp : AttemptSpec) (wid : Nat) (st : ASt) (bg : Bool) (i : Nat) (h : Inv sp wid st)
    (hw : st.world.isSome = true) : Inv sp wid (callStep st bg i) := by
  unfold callStep
  cases hwc : st.world with
  | none => simp [hwc] at hw
  | some wc => exact inv_user sp wid st h wc.1 wc.2 hwc (Call.step bg i wc.1 wc.2) rfl rfl rfl

theorem runStep_inv (sp : AttemptSpec) (wid : Nat) (st : ASt) (bg : Bool) (i : Nat) (h : Inv sp wid st) :
    ((runStep sp wid st bg i).2 = .none → Inv sp wid (runStep sp wid st bg i).1) ∧ Fin sp wid (runStep sp wid st bg i).1 := by
  have hs := evs_irrelevant_inv sp wid st (st.evs ++ [stepEv bg i .started]) h
  have he := ensureWorld_inv sp wid _ hs
  unfold runStep
  cases ho : outOf sp bg i with
  | noMatch => exact ⟨nofun, evs_irrelevant_fin sp wid _ _ hs.toFin⟩
  | ambiguous => exact ⟨nofun, hs.toFin⟩
  | pass =>
    simp only
    generalize ensureWorld sp wid { st with evs := st.evs ++ [stepEv bg i .started] } = r at he
    obtain ⟨st1, ok⟩ := r
    cases ok with
    | true =>
      have hc := evs_irrelevant_inv sp wid _ ((callStep st1 bg i).evs ++ [stepEv bg i .passed])
        (callStep_inv sp wid st1 bg i he.1 he.2)
      exact ⟨fun _ => hc, hc.toFin⟩
    | false => exact ⟨nofun, he⟩
  | panic q =>
    simp only
    generalize ensureWorld sp wid { st with evs := st.evs ++ [stepEv bg i .started] } = r at he
    obtain ⟨st1, ok⟩ := r
    cases ok with
    | true => exact ⟨nofun, (callStep_inv sp wid st1 bg i he.1 he.2).toFin⟩
    | false => exact ⟨nofun, he⟩

theorem runSteps_fin (sp : AttemptSpec) (wid : Nat) (l : List (Bool × Nat)) (st : ASt) (h : Inv sp wid st) :
    Fin sp wid (runSteps sp wid l st).1 := by
  induction l generalizing st with
  | nil => exact h.toFin
  | cons s rest ih =>
    obtain ⟨bg, i⟩ := s
    have hr := runStep_inv sp wid st bg i h
    rw [C02.runSteps_cons]
    split
    · exact ih _ (hr.1 ‹_›)
    · exact hr.2

theorem runBefore_inv (sp : AttemptSpec) (wid : Nat) :
    ((runBefore sp wid st0).2 = .none → Inv sp wid (runBefore sp wid st0).1) ∧ Fin sp wid (runBefore sp wid st0).1 := by
  have h0 := inv_st0 sp wid
  unfold runBefore
  cases hb : sp.hasBefore
  · exact ⟨fun _ => h0, h0.toFin⟩
  · simp only [if_true]
    have hs := evs_irrelevant_inv sp wid st0 (st0.evs ++ [.hook .before .started]) h0
    cases hinit : sp.init with
    | ok =>
      have h1 := inv_new_ok sp wid _ hs rfl InitOut.ok
      have h2 := inv_user sp wid _ h1 wid 0 rfl (Call.before wid 0) rfl rfl rfl
      cases sp.before with
      | pass => exact ⟨fun _ => evs_irrelevant_inv sp wid _ _ h2, (evs_irrelevant_inv sp wid _ _ h2).toFin⟩
      | panic p => exact ⟨nofun, h2.toFin⟩
    | err p => exact ⟨nofun, fin_new_fail sp wid _ hs rfl (InitOut.err p) (by simp [hinit])⟩
    | panic p => exact ⟨nofun, fin_new_fail sp wid _ hs rfl (InitOut.panic p) (by simp [hinit])⟩

theorem runBody_fin (sp : AttemptSpec) (wid : Nat) : Fin sp wid (runBody sp wid).1 := by
  have hb := runBefore_inv sp wid
  unfold runBody
  cases h : (runBefore sp wid st0).2 with
  | none => exact runSteps_fin sp wid _ _ (hb.1 h)
  | _ => exact hb.2

/-- A World is created at most once per attempt. -/
theorem world_at_most_once (sp : AttemptSpec) (wid : Nat) :
    ((runAttempt sp wid).calls.filter isWorldNew).length ≤ 1 := by
  have h := (runBody_fin sp wid).newCount
  unfold runAttempt
  simp only
  split
  · simpa [filter_append, isWorldNew, nNew] using h
  · exact h

/-- Before hook and every executed step receive the SAME World (`wid`), and the j-th of them sees
    exactly the mutations of the j previous ones (the before hook runs first, on a fresh World). -/
theorem world_threaded (sp : AttemptSpec) (wid : Nat) :
    Threaded wid (runAttempt sp wid).calls := by
  have h := (runBody_fin sp wid).threaded
  unfold runAttempt
  simp only
  split
  · exact threaded_snoc_other wid _ _ h rfl
  · exact h

/-- The after hook runs exactly once iff one is set, as the LAST user-code call of the attempt,
    receiving the World if (and only if) one was created — carrying all mutations — and the true reason
    the scenario finished. -/
theorem after_hook_once_with_reason (sp : AttemptSpec) (wid : Nat) :
    (sp.hasAfter = false → (runAttempt sp wid).calls.filter isAfter = []) ∧
    (sp.hasAfter = true → ∃ body w,
      (runAttempt sp wid).calls = body ++ [Call.after (runAttempt sp wid).reason w] ∧
      body.filter isAfter = [] ∧
      (w.isSome = true → nNew body = 1) ∧
      (sp.init = .ok → nNew body = 1 → w.isSome = true) ∧
      (∀ id c, w = some (id, c) → id = wid ∧ c = nUser body)) := by
  have hf := runBody_fin sp wid
  constructor
  · intro h; simp [runAttempt, h, hf.noAfter]
  · intro h
    exact ⟨(runBody sp wid).1.calls, (runBody sp wid).1.world, by simp [runAttempt, h], hf.noAfter,
      hf.hasNew, hf.created, hf.world⟩

/-! ## A World is created only if a before hook is set or a step matched -/

theorem runStep_nomatch_calls (sp : AttemptSpec) (wid : Nat) (st : ASt) (bg : Bool) (i : Nat)
    (h : outOf sp bg i = .noMatch ∨ outOf sp bg i = .ambiguous) :
    (runStep sp wid st bg i).1.calls = st.calls ∧ (runStep sp wid st bg i).2 ≠ .none := by
  unfold runStep
  rcases h with h | h <;> simp [h]

/-- No before hook and the first declared step has no (unique) matching definition: the attempt stops
    there and `World::new` is never called. -/
theorem world_only_if_needed (sp : AttemptSpec) (wid : Nat) (hb : sp.hasBefore = false)
    (h : ∀ b i, (stepList sp).head? = some (b, i) → outOf sp b i = .noMatch ∨ outOf sp b i = .ambiguous) :
    (runAttempt sp wid).calls.filter isWorldNew = [] := by
  have hbody : (runBody sp wid).1.calls = [] := by
    unfold runBody runBefore
    simp only [hb, Bool.false_eq_true, if_false]
    cases hl : stepList sp with
    | nil => simp [runSteps, st0]
    | cons s rest =>
      obtain ⟨b, i⟩ := s
      have := runStep_nomatch_calls sp wid st0 b i (h b i (by simp [hl]))
      rw [C02.runSteps_cons, if_neg this.2]
      simpa [st0] using this.1
  unfold runAttempt
  simp only [hbody]
  split <;> simp [isWorldNew]

/-- With a before hook the very first user-code call is `World::new`, and on success the hook itself
    comes next, on that fresh World (id `wid`, no mutation yet). -/
theorem before_hook_first (sp : AttemptSpec) (wid : Nat) (hb : sp.hasBefore = true) :
    (runBefore sp wid st0).1.calls =
      Call.worldNew sp.init :: (if sp.init = .ok then [Call.before wid 0] else []) := by
  unfold runBefore
  simp only [hb, if_true]
  cases sp.init <;> cases sp.before <;> simp [st0]

/-- No World instance is seen by two different attempts: every World a callback of the attempt with
    id `wid` receives IS `wid` (the harness checks that the real ids of different attempts differ). -/
theorem world_ids_distinct (sp₁ sp₂ : AttemptSpec) (w₁ w₂ : Nat) (h : w₁ ≠ w₂) :
    ∀ a ∈ (runAttempt sp₁ w₁).calls.filterMap userOf, ∀ b ∈ (runAttempt sp₂ w₂).calls.filterMap userOf, a.1 ≠ b.1 := by
  intro a ha b hb
  rw [world_threaded sp₁ w₁] at ha
  rw [world_threaded sp₂ w₂] at hb
  simp only [mem_map, mem_range] at ha hb
  obtain ⟨_, _, rfl⟩ := ha
  obtain ⟨_, _, rfl⟩ := hb
  exact h

/-! ## Non-vacuity -/
example : (runAttempt C02.exSpec 9).calls =
    [.worldNew .ok, .before 9 0, .step true 0 9 1, .step false 0 9 2, .step false 1 9 3,
     .after .stepFailed (some (9, 4))] := by decide

end Cuke.C09
