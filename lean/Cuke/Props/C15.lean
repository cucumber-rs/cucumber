import Cuke.Model.Tag
/-!
# C15 — Filtering by name, tags or closure runs exactly the matching scenarios
Model: `Cuke.keep`, `Cuke.filterFeat`, `Cuke.TagOp.eval` (Cuke/Model/Tag.lean).
-/
namespace Cuke.C15
open Cuke

/-! ## Tag expressions are ordinary Boolean formulas over tag membership -/

theorem eval_and (l r : TagOp) (ts : List String) :
    (TagOp.and l r).eval ts = (l.eval ts && r.eval ts) := rfl

theorem eval_or (l r : TagOp) (ts : List String) :
    (TagOp.or l r).eval ts = (l.eval ts || r.eval ts) := rfl

theorem eval_not (t : TagOp) (ts : List String) :
    (TagOp.not t).eval ts = !(t.eval ts) := rfl

theorem eval_tag (s : String) (ts : List String) :
    (TagOp.tag s).eval ts = true ↔ s ∈ ts := by
  simp [TagOp.eval, List.any_eq_true]

/-- Truth-table semantics: the value of an expression under a valuation of its leaves. -/
def TagOp.sem (v : String → Prop) : TagOp → Prop
  | .and l r => TagOp.sem v l ∧ TagOp.sem v r
  | .or l r => TagOp.sem v l ∨ TagOp.sem v r
  | .not t => ¬ TagOp.sem v t
  | .tag s => v s

/-- `eval` is exactly the Boolean formula over "tag is a member of the list". -/
theorem eval_iff_sem (t : TagOp) (ts : List String) :
    t.eval ts = true ↔ TagOp.sem (fun s => s ∈ ts) t := by
  induction t with
  | and l r ihl ihr => simp [TagOp.eval, TagOp.sem, ihl, ihr]
  | or l r ihl ihr => simp [TagOp.eval, TagOp.sem, ihl, ihr]
  | not t ih =>
    simp only [TagOp.eval, TagOp.sem]
    rw [← ih]; cases t.eval ts <;> simp
  | tag s => exact eval_tag s ts

/-- The value only depends on the *set* of tags (order / duplicates are irrelevant). -/
theorem eval_congr_mem (t : TagOp) (ts ts' : List String) (h : ∀ s, s ∈ ts ↔ s ∈ ts') :
    t.eval ts = t.eval ts' := by
  have h1 := eval_iff_sem t ts
  have h2 := eval_iff_sem t ts'
  have : (fun s => s ∈ ts) = (fun s => s ∈ ts') := by funext s; exact propext (h s)
  rw [this] at h1
  cases h3 : t.eval ts <;> cases h4 : t.eval ts' <;> simp_all

/-! ## Precedence of the three filter sources -/

theorem keep_precedence_re (cfg : FilterCfg) (h : cfg.hasRe = true) (ft rt : List String) (s : FScen) :
    keep cfg ft rt s = s.reMatch := by simp [keep, h]

theorem keep_precedence_tags (cfg : FilterCfg) (h : cfg.hasRe = false) (t : TagOp) (ht : cfg.tags = some t)
    (ft rt : List String) (s : FScen) :
    keep cfg ft rt s = t.eval (ft ++ rt ++ s.tags) := by simp [keep, h, ht]

theorem keep_precedence_closure (cfg : FilterCfg) (h : cfg.hasRe = false) (ht : cfg.tags = none)
    (ft rt : List String) (s : FScen) :
    keep cfg ft rt s = s.closure := by simp [keep, h, ht]

/-- With a tag expression the scenario is kept iff the formula holds over the union of
    feature, rule and scenario tags. -/
theorem keep_tags_union (cfg : FilterCfg) (h : cfg.hasRe = false) (t : TagOp) (ht : cfg.tags = some t)
    (ft rt : List String) (s : FScen) :
    keep cfg ft rt s = true ↔ TagOp.sem (fun x => x ∈ ft ∨ x ∈ rt ∨ x ∈ s.tags) t := by
  rw [keep_precedence_tags cfg h t ht, eval_iff_sem]
  have : (fun x => x ∈ ft ++ rt ++ s.tags) = (fun x => x ∈ ft ∨ x ∈ rt ∨ x ∈ s.tags) := by
    funext x; simp
  rw [this]

/-! ## Exactly the accepted scenarios, in order, rest of the feature intact -/

/-- A scenario is handed on iff it was there and is accepted (top level). -/
theorem filter_exact_top (cfg : FilterCfg) (f : FFeat) (s : FScen) :
    s ∈ (filterFeat cfg f).scens ↔ s ∈ f.scens ∧ keep cfg f.tags [] s = true := by
  simp [filterFeat, List.mem_filter]

/-- The kept scenarios are a sublist of the original ones: original order, nothing duplicated. -/
theorem filter_in_order_top (cfg : FilterCfg) (f : FFeat) :
    List.Sublist (filterFeat cfg f).scens f.scens := by
  simp [filterFeat]

theorem filter_rules_length (cfg : FilterCfg) (f : FFeat) :
    (filterFeat cfg f).rules.length = f.rules.length := by simp [filterFeat]

/-- Per rule: exactly the accepted scenarios (the rule's own tags are inherited), and every rule
    is still present (even an emptied one), with its identity, tags and background. -/
theorem filter_exact_rule (cfg : FilterCfg) (f : FFeat) (i : Nat) (h : i < f.rules.length) :
    ∃ h' : i < (filterFeat cfg f).rules.length,
      let r := f.rules[i]
      let r' := (filterFeat cfg f).rules[i]
      r'.id = r.id ∧ r'.tags = r.tags ∧ r'.bg = r.bg ∧
      r'.scens = r.scens.filter (keep cfg f.tags r.tags) ∧
      List.Sublist r'.scens r.scens ∧
      (∀ s, s ∈ r'.scens ↔ s ∈ r.scens ∧ keep cfg f.tags r.tags s = true) := by
  refine ⟨by simpa [filterFeat] using h, ?_⟩
  simp [filterFeat, filterRule, List.mem_filter]

/-- Name, tags, background of the feature are untouched. -/
theorem filter_preserves_rest (cfg : FilterCfg) (f : FFeat) :
    (filterFeat cfg f).id = f.id ∧ (filterFeat cfg f).tags = f.tags ∧ (filterFeat cfg f).bg = f.bg := by
  simp [filterFeat]

/-! ## Non-vacuity -/
def exCfg : FilterCfg :=
  { hasRe := false, tags := some (TagOp.and (TagOp.tag "a") (TagOp.not (TagOp.tag "b"))) }
def exRule : FRule := { id := 0, tags := ["b"], bg := 0, scens := [⟨3, [], false, true⟩] }
def exFeat : FFeat :=
  { id := 0, tags := ["a"], bg := 1, scens := [⟨1, [], true, false⟩, ⟨2, ["b"], true, true⟩], rules := [exRule] }

example : (filterFeat exCfg exFeat).scens.map (·.id) = [1] ∧
    (filterFeat exCfg exFeat).rules.map (fun r => r.scens.length) = [0] := by
  decide

end Cuke.C15
