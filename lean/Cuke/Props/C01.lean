import Cuke.Model.Writers
import Cuke.Model.Exit
import Cuke.Props.C12
import Cuke.Props.C11
import Cuke.Props.C13
/-!
# C01 — Run verdict: failed iff a parse error or a final scenario failure occurred
The verdict is `execFailed` of the statistics pipeline (`Stats::execution_has_failed`), which
`run_and_exit` turns into a panic / non-zero exit.
-/
namespace Cuke.C01
open Cuke List Cuke.C12

theorem defaultFailed_iff (s : StatsVec) :
    s.defaultFailed = true ↔ s.failed > 0 ∨ s.parsingErrors > 0 ∨ s.hookErrors > 0 := by
  simp [StatsVec.defaultFailed, or_assoc]

/-- `Summarize`'s verdict after a stream whose first run-Finished is shown: failed iff the stream
    (up to run-Finished) holds a parser error, a Failed step that is not retried-classified
    (no retry left, no retries at all, or not-found), or ANY Failed hook. -/
theorem summVerdict_iff (cat) (w : W) (pre post : List Ev) (h : ∀ e ∈ pre, e.isFinished = false) :
    execFailed (.summ w) (runW cat (.summ w) (pre ++ Ev.finished :: post)).1 = true ↔
      ∃ e ∈ pre, e.isParseErr = true ∨ isFinalStepFailure e = true ∨ e.isHookFailed = true := by
  have hg := stats_getters cat w pre post h
  simp only at hg
  obtain ⟨_, _, hf, _, hp, hh⟩ := hg
  simp only [execFailed]
  rw [defaultFailed_iff, hf, hp, hh]
  -- one of the three counters is positive iff some event is of one of the three kinds
  simp only [gt_iff_lt, countP_pos_iff, ← exists_or, ← and_or_left]
  exact exists_congr fun e => and_congr_right fun _ => or_left_comm

/-- The verdict does not depend on how concurrently running scenarios interleave, nor on the
    order in which `Normalize` forwards them: any permutation of the events gives the same verdict. -/
theorem verdict_perm_invariant (cat) (w : W) (pre pre' post post' : List Ev)
    (h : ∀ e ∈ pre, e.isFinished = false) (hp : pre ~ pre') :
    execFailed (.summ w) (runW cat (.summ w) (pre ++ Ev.finished :: post)).1 =
      execFailed (.summ w) (runW cat (.summ w) (pre' ++ Ev.finished :: post')).1 := by
  have h' : ∀ e ∈ pre', e.isFinished = false := fun e he => h e (hp.symm.subset he)
  rw [Bool.eq_iff_iff, summVerdict_iff cat w pre post h, summVerdict_iff cat w pre' post' h']
  exact exists_congr fun e => and_congr_left fun _ => hp.mem_iff

/-- **A statistics writer behind `Normalize` reports the same verdict** as it would without it
    (`.summarized().normalized()`): for every contract-abiding concurrent stream, whatever order
    `Normalize` releases the events in. (`Summarize<Normalize<_>>`, the default pipeline, is an instance of
    `summVerdict_iff` with `w := .norm _`.) Uses C11 (`norm_T1_finished_last`) and C13 (`norm_prefilter`). -/
theorem normalize_keeps_verdict (cat) (w : W) (pre : List Ev) (h : ∀ e ∈ pre, e.isFinished = false)
    (hs : C11.SafeRun Norm.init (pre ++ [Ev.finished]) = true) :
    execFailed (.norm (.summ w)) (runW cat (.norm (.summ w)) (pre ++ [Ev.finished])).1 =
      execFailed (.summ w) (runW cat (.summ w) (pre ++ [Ev.finished])).1 := by
  have hnf : ∀ e ∈ pre, e ≠ Ev.finished := by
    intro e he heq
    have := h e he
    rw [heq] at this
    cases this
  obtain ⟨n, outs, pre', hrun, hout, hp⟩ := C11.norm_T1_finished_last pre hnf hs
  rw [C13.norm_prefilter cat (.summ w) _ n outs hrun, hout]
  show execFailed (.summ w) (runW cat (.summ w) (pre' ++ [Ev.finished])).1 = _
  exact verdict_perm_invariant cat w pre' pre [] [] (fun e he => h e (hp.subset he)) hp

/-- non-vacuity: an interleaved stream with a final failure behind `Normalize` -/
example : C11.SafeRun Norm.init C11.exStream = true ∧
    execFailed (.norm (.summ (.leaf 0))) (runW (catx 1) (.norm (.summ (.leaf 0))) C11.exStream).1 = false := by
  decide +kernel

theorem max_defaultFailed (a b : StatsVec) :
    (a.max b).defaultFailed = (a.defaultFailed || b.defaultFailed) := by
  have pos : ∀ m n : Nat, Nat.max m n > 0 ↔ m > 0 ∨ n > 0 := by
    intro m n
    show max m n > 0 ↔ _
    omega
  rw [Bool.eq_iff_iff]
  simp only [Bool.or_eq_true, defaultFailed_iff, StatsVec.max, pos]
  omega

theorem add_defaultFailed (a b : StatsVec) :
    (a.add b).defaultFailed = (a.defaultFailed || b.defaultFailed) := by
  rw [Bool.eq_iff_iff]
  simp only [Bool.or_eq_true, defaultFailed_iff, StatsVec.add]
  omega

/-- `Tee`: failed iff either side reports a failure (pointwise max of the counters). -/
theorem tee_verdict (l r : W) (sl : St l) (sr : St r) :
    execFailed (.tee l r) (sl, sr) = ((statsOf l sl).defaultFailed || (statsOf r sr).defaultFailed) :=
  max_defaultFailed _ _

/-- `Or`: failed iff either side reports a failure (pointwise sum of the counters). -/
theorem or_verdict (c : OrPred) (l r : W) (sl : St l) (sr : St r) :
    execFailed (.or c l r) (sl, sr) = ((statsOf l sl).defaultFailed || (statsOf r sr).defaultFailed) :=
  add_defaultFailed _ _

/-- `FailOnSkipped`: the verdict is the inner pipeline's verdict on the transformed stream. -/
theorem fos_verdict (cat) (p : FosPred) (w : W) (evs : List Ev) :
    execFailed (.fos p w) (runW cat (.fos p w) evs).1 =
      execFailed w (runW cat w (evs.map (fosMap (p.eval cat)))).1 := by
  rw [C13.fos_is_map]; rfl

/-- `Repeat` around (or inside) the summary does not change the verdict: replayed events arrive after
    run-Finished, when the counters are frozen. -/
theorem repeat_verdict (cat) (f : RepFilter) (w : W) (pre post : List Ev)
    (hpre : ∀ e ∈ pre, e.isFinished = false) (hpost : ∀ e ∈ post, e.isFinished = false) :
    execFailed (.rep f (.summ w)) (runW cat (.rep f (.summ w)) (pre ++ Ev.finished :: post)).1 =
      execFailed (.summ w) (runW cat (.summ w) (pre ++ Ev.finished :: post)).1 := by
  have h := congrArg Prod.fst (C13.repeat_output cat f (.summ w) (pre ++ Ev.finished :: post))
  rw [C13.repeat_once f.eval pre post hpre hpost, append_assoc, append_assoc, singleton_append] at h
  show execFailed (.summ w) (runW cat (.rep f (.summ w)) (pre ++ Ev.finished :: post)).1.2 = _
  simp only at h
  -- both streams have the same events before their first run-Finished
  rw [h, Bool.eq_iff_iff, summVerdict_iff cat w pre _ hpre, summVerdict_iff cat w pre post hpre]

/-- retry counter of an event: `none` = no retries configured -/
def retOf : Ev → Option Retries
  | .scen _ ret _ => ret
  | _ => none

/-- the attempt this event belongs to will not be retried (no budget, or none left) -/
def noRetryLeft (e : Ev) : Bool :=
  match retOf e with
  | none => true
  | some r => r.left == 0

/-- a failure event (failed step or failed hook) of an attempt that has no retry left -/
def isFinalFailureEvent (e : Ev) : Bool := (e.isStepFailed || e.isHookFailed) && noRetryLeft e

/-- not-found failures only arise from `fail_on_skipped` and are final by definition -/
def isNotFoundFailure : Ev → Bool
  | .scen _ _ (.bg _ (.failed .notFound)) => true
  | .scen _ _ (.step _ (.failed .notFound)) => true
  | _ => false

theorem finalStepFailure_iff (e : Ev) :
    isFinalStepFailure e = true ↔ e.isStepFailed = true ∧ (noRetryLeft e = true ∨ isNotFoundFailure e = true) := by
  -- a Failed event of a background (`bg = true`) or own step
  have key : ∀ (bg : Bool) k ret i err,
      let e : Ev := .scen k ret (if bg then .bg i (.failed err) else .step i (.failed err))
      isFinalStepFailure e = true ↔ e.isStepFailed = true ∧ (noRetryLeft e = true ∨ isNotFoundFailure e = true) := by
    intro bg k ret i err
    cases bg <;> cases ret <;> cases err <;>
      simp [isFinalStepFailure, isRetriedFailure, Ev.isStepFailed, Ev.scenEv?, ScenEv.isStepFailed, ScenEv.stepRes?,
        StepRes.isFailed, noRetryLeft, retOf, isNotFoundFailure] <;> omega
  cases e with
  | scen k ret se =>
    cases se with
    | bg i r =>
      cases r with
      | failed err => exact key true k ret i err
      | _ => simp [isFinalStepFailure, Ev.isStepFailed, Ev.scenEv?, ScenEv.isStepFailed, ScenEv.stepRes?, StepRes.isFailed]
    | step i r =>
      cases r with
      | failed err => exact key false k ret i err
      | _ => simp [isFinalStepFailure, Ev.isStepFailed, Ev.scenEv?, ScenEv.isStepFailed, ScenEv.stepRes?, StepRes.isFailed]
    | _ => simp [isFinalStepFailure, Ev.isStepFailed, Ev.scenEv?, ScenEv.isStepFailed, ScenEv.stepRes?]
  | _ => simp [isFinalStepFailure, Ev.isStepFailed, Ev.scenEv?]

/-- The property's full statement at event level: the run is reported failed iff a parser error was
    delivered or some failure event (failed step / failed hook; a skipped step turned into not-found by
    `fail_on_skipped`) belongs to an attempt with no retry left. -/
def C01_full (cat : Catalog) (w : W) : Prop :=
  ∀ pre post : List Ev, (∀ e ∈ pre, e.isFinished = false) →
    (execFailed (.summ w) (runW cat (.summ w) (pre ++ Ev.finished :: post)).1 = true ↔
      ∃ e ∈ pre, e.isParseErr = true ∨ isFinalFailureEvent e = true ∨ isNotFoundFailure e = true)

/-- **Proved part**: the full statement holds for every stream in which no hook fails inside an attempt
    that still has a retry left (the history of finding F-C01 is excluded, nothing else). -/
theorem C01_verdict_partial (cat) (w : W) (pre post : List Ev) (h : ∀ e ∈ pre, e.isFinished = false)
    (hhook : ∀ e ∈ pre, e.isHookFailed = true → noRetryLeft e = true) :
    execFailed (.summ w) (runW cat (.summ w) (pre ++ Ev.finished :: post)).1 = true ↔
      ∃ e ∈ pre, e.isParseErr = true ∨ isFinalFailureEvent e = true ∨ isNotFoundFailure e = true := by
  rw [summVerdict_iff cat w pre post h]
  constructor
  · rintro ⟨e, he, h1 | h1 | h1⟩
    · exact ⟨e, he, Or.inl h1⟩
    · obtain ⟨a, b | b⟩ := (finalStepFailure_iff e).mp h1
      · exact ⟨e, he, Or.inr (Or.inl (by simp [isFinalFailureEvent, a, b]))⟩
      · exact ⟨e, he, Or.inr (Or.inr b)⟩
    · exact ⟨e, he, Or.inr (Or.inl (by simp [isFinalFailureEvent, h1, hhook e he h1]))⟩
  · rintro ⟨e, he, h1 | h1 | h1⟩
    · exact ⟨e, he, Or.inl h1⟩
    · simp only [isFinalFailureEvent, Bool.and_eq_true, Bool.or_eq_true] at h1
      obtain ⟨a | a, b⟩ := h1
      · exact ⟨e, he, Or.inr (Or.inl ((finalStepFailure_iff e).mpr ⟨a, Or.inl b⟩))⟩
      · exact ⟨e, he, Or.inr (Or.inr a)⟩
    · have : e.isStepFailed = true := by
        unfold isNotFoundFailure at h1
        split at h1 <;> simp_all [Ev.isStepFailed, Ev.scenEv?, ScenEv.isStepFailed, ScenEv.stepRes?, StepRes.isFailed]
      exact ⟨e, he, Or.inr (Or.inl ((finalStepFailure_iff e).mpr ⟨this, Or.inr h1⟩))⟩

/-- **The full statement is false of the code** (finding F-C01): a hook failing only in an attempt that
    is retried, followed by a passing last attempt, makes the run fail. Witness: `C12.streamA`. -/
theorem C01_full_false : ¬ C01_full (catx 1) (.leaf 0) := by
  intro h
  have hs : ∀ e ∈ streamA.dropLast, e.isFinished = false := by decide +kernel
  have := (h streamA.dropLast [] hs).mp (by decide +kernel)
  revert this
  decide +kernel

/-- the excluded histories are exactly "hook failure with a retry left" — the witness has one -/
example : ∃ e ∈ streamA, e.isHookFailed = true ∧ noRetryLeft e = false := by decide +kernel

/-- non-vacuity of the partial theorem: a stream satisfying its hypotheses that does fail finally -/
example : (∀ e ∈ streamB.dropLast, e.isHookFailed = true → noRetryLeft e = true) ∧
    execFailed (.summ (.leaf 0)) (runW (catx 1) (.summ (.leaf 0)) streamB).1 = true := by decide +kernel

/-! ## the process verdict: `Cucumber::run_and_exit` (src/cucumber.rs `filter_run_and_exit`) -/

/-- `run_and_exit` panics (the test binary exits non-zero) exactly when the statistics writer says the
    execution has failed — for every pipeline and every event stream. -/
theorem run_and_exit_panics_iff (cat : Catalog) (w : W) (evs : List Ev) :
    (runAndExit cat w evs).isSome = execFailed w (runW cat w evs).1 := by
  simp only [runAndExit, exitOutcome]
  cases execFailed w (runW cat w evs).1 <;> simp

/-- … hence, for the default `summarized()` pipeline, exactly on the streams characterised by
    `summVerdict_iff`: a parse error, a step failure classified as final, or a failed hook before
    run-Finished. -/
theorem run_and_exit_summarized (cat : Catalog) (w : W) (pre post : List Ev)
    (h : ∀ e ∈ pre, e.isFinished = false) :
    (runAndExit cat (.summ w) (pre ++ Ev.finished :: post)).isSome = true ↔
      ∃ e ∈ pre, e.isParseErr = true ∨ isFinalStepFailure e = true ∨ e.isHookFailed = true := by
  rw [run_and_exit_panics_iff]
  exact summVerdict_iff cat w pre post h

/-- the panic message names exactly the non-zero counters, in the order steps / parsing / hooks -/
theorem exit_message_parts (s : StatsVec) :
    (exitParts s).length = (if s.failed > 0 then 1 else 0) + (if s.parsingErrors > 0 then 1 else 0)
      + (if s.hookErrors > 0 then 1 else 0) := by
  unfold exitParts
  split <;> split <;> split <;> simp

/-- a failed execution always has something to say: the message is never empty when the verdict comes from
    the default formula (`defaultFailed`) -/
theorem exit_message_nonempty (s : StatsVec) (h : s.defaultFailed = true) : exitParts s ≠ [] := by
  unfold StatsVec.defaultFailed at h
  unfold exitParts
  simp only [Bool.or_eq_true, decide_eq_true_eq] at h
  rcases h with (h | h) | h <;> simp [h]

/-- no run, no failure: returns normally -/
example : runAndExit (catx 1) (.summ (.leaf 0)) [] = none := by decide +kernel
/-- the F-C01 witness stream panics with one hook error -/
example : (runAndExit (catx 1) (.summ (.leaf 0)) streamA).isSome = true := by decide +kernel

end Cuke.C01
