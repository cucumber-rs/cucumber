import Cuke.Model.Reporters
import Cuke.Lemmas.BasicWriter
/-!
# C14 — Built-in reports, parsed back, state exactly the facts of the event stream
Models: `Cuke.Rep.ltRun` (libtest), `Cuke.Rep.junitRun`, `Cuke.Rep.jsonRun`, and `Cuke.Rep.facts`.
Record-level logic is proved here; byte-level well-formedness / escaping is TESTED by parsing the real
output back (serde_json, XML structure), not proved. The plain terminal writer `writer::Basic` is modelled
in non-terminal mode (`Cuke.Rep.basicRun`, Cuke/Model/BasicWriter.lean): printed blocks as records, the
indentation counter as its only state; its text is parsed back block by block by the harness.
-/
namespace Cuke.C14
open Cuke Cuke.Rep List

def isPF : Ev → Bool
  | .parsingFinished .. => true
  | _ => false

theorem handle_buffers (s : Lt) (hasPath) (e : Ev) (hp : s.parsedAll = false) (he : isPF e = false) :
    s.handle hasPath e = ({ s with events := s.events ++ [e] }, []) := by
  unfold Lt.handle
  simp only [hp, Bool.false_eq_true, if_false]
  cases e <;> simp_all [isPF]

/-- Nothing is written before ParsingFinished arrives; the events are kept, in order. -/
theorem lt_buffering (hasPath) (evs : List Ev) (h : ∀ e ∈ evs, isPF e = false) :
    (ltRun hasPath evs).2 = [] ∧ (ltRun hasPath evs).1.events = evs ∧ (ltRun hasPath evs).1.parsedAll = false := by
  suffices ∀ s : Lt, s.parsedAll = false →
      let r := evs.foldl (fun (acc : Lt × List LtRec) e => let r := acc.1.handle hasPath e; (r.1, acc.2 ++ r.2)) (s, [])
      r.2 = [] ∧ r.1.events = s.events ++ evs ∧ r.1.parsedAll = false by
    simpa [ltRun] using this {} rfl
  induction evs with
  | nil => intro s hp; simp [hp]
  | cons e es ih =>
    intro s hp
    simp only [foldl_cons]
    rw [handle_buffers s hasPath e hp (h e (by simp))]
    have := ih (fun x hx => h x (by simp [hx])) { s with events := s.events ++ [e] } hp
    simpa using this

/-- At ParsingFinished the suite `started` record comes first, then the buffered events are replayed
    in their original order. -/
theorem lt_replay_at_parsing_finished (s : Lt) (hasPath) (f r sc st pe : Nat) (hp : s.parsedAll = false) :
    s.handle hasPath (.parsingFinished f r sc st pe) =
      ({ s with parsedAll := true, events := [] } : Lt).expandAll hasPath (.parsingFinished f r sc st pe :: s.events) := by
  simp [Lt.handle, hp]

theorem suite_started_first (s : Lt) (hasPath) (f r sc st pe : Nat) (rest : List Ev) :
    (s.expandAll hasPath (.parsingFinished f r sc st pe :: rest)).2.head? = some (.suiteStarted (st + pe)) := rfl

/-- The suite line says `ok` iff there is no final step failure, no hook failure and no parser error;
    its `failed` total is their sum, `passed` / `ignored` are the counters of ok / ignored records. -/
theorem lt_verdict (s : Lt) (hasPath) :
    (s.expand hasPath .finished).2 =
      [if s.failed + s.parsingErrors + s.hookErrors = 0 then .suiteOk s.passed 0 s.ignored
       else .suiteFailed s.passed (s.failed + s.parsingErrors + s.hookErrors) s.ignored] := by
  simp only [Lt.expand]
  by_cases h : s.failed + s.parsingErrors + s.hookErrors = 0
  · simp [h]
  · have h' : (s.failed + s.parsingErrors + s.hookErrors == 0) = false := by simpa using h
    simp only [h', h, if_false]
    rfl

theorem name_state (s : Lt) (hasPath : Nat → Bool) (k : ScenKey) (ret) (st : LtStep) :
    ∃ n, s.name hasPath k ret st = (s, n) := by
  simp only [Lt.name]
  split <;> exact ⟨_, rfl⟩

/-- every `ok` record bumps `passed`, every `ignored` record bumps `ignored`, a `failed` step record bumps
    `failed` or (if the attempt will be retried) `retried` — never both, never neither -/
theorem lt_step_counters (s : Lt) (hasPath) (k : ScenKey) (ret) (bg : Bool) (i : Nat) (r : StepRes) :
    let s' := (Lt.expand.stepRec s hasPath k ret bg i r).1
    (r = .passed → s'.passed = s.passed + 1 ∧ s'.failed = s.failed ∧ s'.ignored = s.ignored) ∧
    (r = .skipped → s'.ignored = s.ignored + 1 ∧ s'.failed = s.failed ∧ s'.passed = s.passed) ∧
    (∀ err, r = .failed err → s'.passed = s.passed ∧ s'.ignored = s.ignored ∧
      ((isRetriedFailure ret err = true ∧ s'.retried = s.retried + 1 ∧ s'.failed = s.failed) ∨
       (isRetriedFailure ret err = false ∧ s'.failed = s.failed + 1 ∧ s'.retried = s.retried))) := by
  obtain ⟨n, hn⟩ := name_state s hasPath k ret (.step bg i)
  refine ⟨?_, ?_, ?_⟩
  · rintro rfl
    simp [Lt.expand.stepRec, hn]
  · rintro rfl
    simp [Lt.expand.stepRec, hn]
  · rintro err rfl
    cases h : isRetriedFailure ret err <;> simp [Lt.expand.stepRec, hn, h]

/-- The test name is a function of (feature, rule, scenario, retries, step) and — for a feature WITHOUT a path — of the
    running number of path-less features, which only a `Feature::Started` changes; computing a name does not change the
    writer's state (since the `fix:` for F-C14a: before, every call bumped the number). -/
theorem lt_name_stable (s s' : Lt) (hasPath : Nat → Bool) (k : ScenKey) (ret) (st : LtStep)
    (h : hasPath k.feat = true ∨ s'.featuresWithoutPath = s.featuresWithoutPath) :
    (s.name hasPath k ret st).2 = (s'.name hasPath k ret st).2 ∧ (s.name hasPath k ret st).1 = s := by
  rcases h with h | h
  · simp [Lt.name, h]
  · by_cases hp : hasPath k.feat = true <;> simp [Lt.name, hp, h]

/-- **started/result pairing**: for EVERY feature (with or without a path), a step's Started event followed by its
    result event yields `started n` and a result record with the SAME name `n`. -/
theorem lt_started_paired (s : Lt) (hasPath : Nat → Bool) (k : ScenKey) (ret) (i : Nat) (r : StepRes)
    (hr : r ≠ .started) :
    ∃ n res, (s.expandAll hasPath [.scen k ret (.step i .started), .scen k ret (.step i r)]).2 = [.started n, res] ∧
      (res = .ok n ∨ res = .failed n ∨ res = .ignored n) := by
  -- computing the name leaves the writer's state alone, so both events get the same one
  obtain ⟨n, hn⟩ := name_state s hasPath k ret (.step false i)
  refine ⟨n, ?_⟩
  cases r with
  | started => exact absurd rfl hr
  | passed => exact ⟨_, by simp [Lt.expandAll, Lt.expand, Lt.expand.stepRec, hn], Or.inl rfl⟩
  | skipped => exact ⟨_, by simp [Lt.expandAll, Lt.expand, Lt.expand.stepRec, hn], Or.inr (Or.inr rfl)⟩
  | failed err =>
    refine ⟨_, ?_, Or.inr (Or.inl rfl)⟩
    simp only [Lt.expandAll, Lt.expand, Lt.expand.stepRec, hn]
    split <;> simp

def kx : ScenKey := ⟨0, none, 1⟩

/-- regression for F-C14a (fixed): a path-less feature's `started` record and its result carry the same number, and two
    path-less features get different numbers -/
theorem lt_pathless_features_numbered :
    ((({} : Lt).expandAll (fun _ => false) [.featStarted 0, .scen kx none (.step 0 .started), .scen kx none (.step 0 .passed),
        .featFinished 0, .featStarted 5, .scen ⟨5, none, 6⟩ none (.step 0 .started)]).2) =
      [.started ⟨0, some 1, none, 1, none, .step false 0⟩, .ok ⟨0, some 1, none, 1, none, .step false 0⟩,
       .started ⟨5, some 2, none, 6, none, .step false 0⟩] := by
  decide

/-- identity of a result, without the running number -/
structure Key where
  k : ScenKey
  retry : Option (Nat × Nat)
  step : LtStep
  cls : Nat   -- 0 ok, 1 failed, 2 ignored
  deriving DecidableEq, Repr

def recKey : LtRec → Option Key
  | .ok n => some ⟨⟨n.feat, n.rule, n.scen⟩, n.retry, n.step, 0⟩
  | .failed n => some ⟨⟨n.feat, n.rule, n.scen⟩, n.retry, n.step, 1⟩
  | .ignored n => some ⟨⟨n.feat, n.rule, n.scen⟩, n.retry, n.step, 2⟩
  | _ => none

def resCls : StepRes → Option Nat
  | .passed => some 0
  | .failed _ => some 1
  | .skipped => some 2
  | .started => none

def evKey : Ev → Option Key
  | .scen k ret (.hook t (.failed _)) => some ⟨k, retryOf ret, .hook (t == .before), 1⟩
  | .scen k ret (.bg i r) => (resCls r).map (fun c => ⟨k, retryOf ret, .step true i, c⟩)
  | .scen k ret (.step i r) => (resCls r).map (fun c => ⟨k, retryOf ret, .step false i, c⟩)
  | _ => none

theorem name_key (s : Lt) (hasPath) (k : ScenKey) (ret) (st : LtStep) :
    let n := (s.name hasPath k ret st).2
    (⟨n.feat, n.rule, n.scen⟩ : ScenKey) = k ∧ n.retry = retryOf ret ∧ n.step = st := by
  simp only [Lt.name]
  split <;> (cases k; simp)

theorem stepRec_keys (s : Lt) (hasPath) (k : ScenKey) (ret) (bg : Bool) (i : Nat) (r : StepRes) :
    (Lt.expand.stepRec s hasPath k ret bg i r).2.filterMap recKey =
      ((resCls r).map (fun c => (⟨k, retryOf ret, .step bg i, c⟩ : Key))).toList := by
  obtain ⟨a, b, c⟩ := name_key s hasPath k ret (.step bg i)
  cases r with
  | started => rfl
  | failed err =>
    simp only [Lt.expand.stepRec]
    split <;> simp only [filterMap_cons, recKey, filterMap_nil, a, b, c] <;> rfl
  | _ => simp only [Lt.expand.stepRec, filterMap_cons, recKey, filterMap_nil, a, b, c] <;> rfl

theorem expand_keys (s : Lt) (hasPath) (e : Ev) :
    (s.expand hasPath e).2.filterMap recKey = (evKey e).toList := by
  cases e with
  | scen k ret se =>
    cases se with
    | hook t r =>
      cases r with
      | failed p =>
        obtain ⟨a, b, c⟩ := name_key { s with hookErrors := s.hookErrors + 1 } hasPath k ret (.hook (t == .before))
        simp only [Lt.expand, evKey, Option.toList, filterMap_cons, recKey, filterMap_nil]
        rw [a, b, c]
      | _ => rfl
    | bg i r => exact stepRec_keys s hasPath k ret true i r
    | step i r => exact stepRec_keys s hasPath k ret false i r
    | _ => rfl
  | finished => simp only [Lt.expand, evKey]; split <;> rfl
  | _ => rfl

/-- **libtest states exactly the facts of the stream**: the result records (ok / failed / ignored), in
    order, are in one-to-one correspondence with the step-result and hook-failure events — nothing
    dropped, duplicated, invented or attributed to another scenario / step / attempt. -/
theorem lt_facts (s : Lt) (hasPath) (evs : List Ev) :
    (s.expandAll hasPath evs).2.filterMap recKey = evs.filterMap evKey := by
  induction evs generalizing s with
  | nil => simp [Lt.expandAll]
  | cons e es ih =>
    simp only [Lt.expandAll, filterMap_append, expand_keys, ih, filterMap_cons_toList]

/-! ## JUnit: one test case per finished attempt, status by its last significant event -/

theorem junit_case_status (pre : List ScenEv) :
    (∀ p, caseStatus (pre ++ [.hook .before (.failed p)]) = some (.failure true)) ∧
    (∀ i e, caseStatus (pre ++ [.step i (.failed e)]) = some (.failure false)) ∧
    (∀ i, caseStatus (pre ++ [.step i .skipped]) = some .skipped) ∧
    (∀ i, caseStatus (pre ++ [.step i .passed]) = some .success) ∧
    (∀ i e, caseStatus (pre ++ [.step i (.failed e), .hook .after .started, .hook .after .passed]) = some (.failure false)) ∧
    (∀ i p, caseStatus (pre ++ [.step i .passed, .hook .after .started, .hook .after (.failed p)]) = some (.failure true)) := by
  refine ⟨?_, ?_, ?_, ?_, ?_, ?_⟩ <;> intros <;> simp [caseStatus, reverse_append, find?]

/-- **Every executed step, failed hook and parser error is printed exactly once, with the right status,
    in stream order — and nothing else is** (for EVERY stream: this part of the writer is stateless). -/
theorem basic_states_raw_facts (evs : List Ev) :
    (basicRun evs).2.filterMap rawOfLine = evs.filterMap rawOfEv := by
  rw [basicRun_eq]
  suffices ∀ s, (basicFrom s evs).2.filterMap rawOfLine = evs.filterMap rawOfEv from this {}
  induction evs with
  | nil => intro s; simp [basicFrom]
  | cons e es ih =>
    intro s
    rw [basicFrom_cons]
    simp only [filterMap_append, handle_raw, ih, filterMap_cons_toList]

theorem basic_read_from (q : SeqSt) (b : Basic) (c : BCtx) (evs : List Ev) (h : Tied q b c)
    (hs : SeqOk q evs = true) :
    (readFrom c (basicFrom b evs).2).2 = evs.filterMap bfactOf := by
  induction evs generalizing q b c with
  | nil => simp [basicFrom, readFrom_nil]
  | cons e es ih =>
    simp only [SeqOk] at hs
    cases hq : q.step e with
    | none => simp [hq] at hs
    | some q' =>
      simp only [hq] at hs
      obtain ⟨ht, hf⟩ := tied_step q q' b c e h hq
      rw [basicFrom_cons, readFrom_append]
      simp only [hf, ih q' _ _ ht hs, filterMap_cons_toList]

/-- **Read back, the plain-text report states exactly the facts of the run, each under its own
    feature / rule / scenario (and retry attempt)**: for every normalized canonical stream (`SeqOk`: what
    `Normalize` hands to the writer), a reader who attributes each `✔ / ? / ✘` block to the headers above it
    (a scenario 4 columns deep is inside the last `Rule:`) recovers `bfactOf` of every event, in order. -/
theorem basic_report_read_back (evs : List Ev) (h : SeqOk {} evs = true) :
    readReport (basicRun evs).2 = evs.filterMap bfactOf := by
  rw [readReport_eq, basicRun_eq]
  exact basic_read_from {} {} {} evs
    ⟨by simp, fun _ => rfl, by simp, by simp, by simp⟩ h

/-- the indentation counter is back at the feature level whenever no scenario / rule is open — so the next
    `Scenario:` header is printed at column 2, or 4 inside a rule (what the reader's rule relies on) -/
theorem basic_indent_tied (q q' : SeqSt) (b : Basic) (c : BCtx) (e : Ev) (h : Tied q b c) (hs : q.step e = some q') :
    (b.handle e).1.indent =
      (if q'.rule.isSome then 2 else 0) + (if q'.scen.isSome then 2 else 0) + (if q'.opened then 4 else 0) :=
  (tied_step q q' b c e h hs).1.indent

/-- attribution needs the stream to be normalized: two interleaved scenarios are read back wrongly
    (which is why the writer must sit behind `Normalize`) -/
example : readReport (basicRun [.featStarted 1, .scen ⟨1, none, 2⟩ none .started, .scen ⟨1, none, 3⟩ none .started,
      .scen ⟨1, none, 2⟩ none (.step 0 .started), .scen ⟨1, none, 2⟩ none (.step 0 .passed)]).2 ≠
    [.featStarted 1, .scen ⟨1, none, 2⟩ none .started, .scen ⟨1, none, 3⟩ none .started,
      .scen ⟨1, none, 2⟩ none (.step 0 .started), .scen ⟨1, none, 2⟩ none (.step 0 .passed)].filterMap bfactOf := by
  decide

/-- non-vacuity: a normalized stream with a rule, a retry, a failing step and a failing hook -/
def basicEx : List Ev :=
  [.started, .featStarted 1, .scen ⟨1, none, 2⟩ none .started, .scen ⟨1, none, 2⟩ none (.step 0 .started),
   .scen ⟨1, none, 2⟩ none (.step 0 .passed), .scen ⟨1, none, 2⟩ none .finished,
   .ruleStarted 1 5, .scen ⟨1, some 5, 6⟩ (some ⟨1, 1⟩) .started, .scen ⟨1, some 5, 6⟩ (some ⟨1, 1⟩) (.bg 0 .started),
   .scen ⟨1, some 5, 6⟩ (some ⟨1, 1⟩) (.bg 0 (.failed (.panic 2))), .scen ⟨1, some 5, 6⟩ (some ⟨1, 1⟩) (.hook .after .started),
   .scen ⟨1, some 5, 6⟩ (some ⟨1, 1⟩) (.hook .after (.failed 0)), .scen ⟨1, some 5, 6⟩ (some ⟨1, 1⟩) .finished,
   .ruleFinished 1 5, .featFinished 1, .finished]

example : SeqOk {} basicEx = true ∧
    (basicRun basicEx).2 = [.feature 1, .scenario 2 2 none, .step 3 false 0 .passed none, .rule 0 5,
      .scenario 4 6 (some (1, 2)), .step 5 true 0 (.failed (.panic 2)) (some 1), .hook 5 false 0 1] := by decide

/-! ## Cucumber JSON: duplicate feature objects for path-less features (finding F-C14b) -/

theorem json_dup_false :
    jsonRun (fun _ => false) [.scen kx none (.step 0 .started), .scen kx none (.step 0 .passed), .finished] =
      [.feature 0 [⟨none, 1, false, [], [], []⟩], .feature 0 [⟨none, 1, false, [(0, .passed)], [], []⟩]] := by
  decide

/-- with a path there is one feature object and the step is recorded once -/
example :
    jsonRun (fun _ => true) [.scen kx none (.step 0 .started), .scen kx none (.step 0 .passed), .finished] =
      [.feature 0 [⟨none, 1, false, [(0, .passed)], [], []⟩]] := by decide


/-- a step entry of the Cucumber JSON document: (feature, rule, scenario, in a `background` element, step index, status) -/
abbrev JFact := Nat × Option Nat × Nat × Bool × Nat × Status

def elemFacts (f : Nat) (e : JElem) : List JFact := e.steps.map (fun p => (f, e.rule, e.scen, e.bg, p.1, p.2))

def featFacts : JFeat → List JFact
  | .feature f els => els.flatMap (elemFacts f)
  | .errors _ => []

def docFacts (doc : List JFeat) : List JFact := doc.flatMap featFacts

def evJFact : Ev → Option JFact
  | .scen k _ (.bg i r) => (statusOf r).map (fun st => (k.feat, k.rule, k.scen, true, i, st))
  | .scen k _ (.step i r) => (statusOf r).map (fun st => (k.feat, k.rule, k.scen, false, i, st))
  | _ => none

theorem updFirstJ_flatMap {α β} (p : α → Bool) (g : α → α) (buf : α → List β) (x : List β) (l : List α)
    (hex : l.any p = true) (hg : ∀ a ∈ l, p a = true → buf (g a) ~ buf a ++ x) :
    (jsonUpd.updFirstJ p g l).flatMap buf ~ l.flatMap buf ++ x := by
  induction l with
  | nil => simp at hex
  | cons a rest ih =>
    by_cases hp : p a = true
    · simp only [jsonUpd.updFirstJ, hp, if_true, flatMap_cons]
      have := hg a (by simp) hp
      exact (this.append_right _).trans (by
        rw [append_assoc, append_assoc]
        exact Perm.append_left _ perm_append_comm)
    · have hp' : p a = false := by simpa using hp
      simp only [jsonUpd.updFirstJ, hp', Bool.false_eq_true, if_false, flatMap_cons]
      have hex' : rest.any p = true := by simpa [hp'] using hex
      have := ih hex' (fun b hb => hg b (by simp [hb]))
      rw [append_assoc]
      exact Perm.append_left _ this

theorem jsonUpd_facts (doc : List JFeat) (k : ScenKey) (bg : Bool) (g : JElem → JElem) (new : List (Nat × Status))
    (hg : ∀ e : JElem, (g e).steps = e.steps ++ new ∧ (g e).rule = e.rule ∧ (g e).scen = e.scen ∧ (g e).bg = e.bg) :
    docFacts (jsonUpd (fun _ => true) doc k bg g) ~
      docFacts doc ++ new.map (fun p => (k.feat, k.rule, k.scen, bg, p.1, p.2)) := by
  have helem : ∀ (f : Nat) (e : JElem), (e.rule == k.rule && e.scen == k.scen && e.bg == bg) = true →
      elemFacts f (g e) = elemFacts f e ++ new.map (fun p => (f, k.rule, k.scen, bg, p.1, p.2)) := by
    intro f e he
    simp only [Bool.and_eq_true, beq_iff_eq] at he
    obtain ⟨h1, h2, h3, h4⟩ := hg e
    simp [elemFacts, h1, h2, h3, h4, he.1.1, he.1.2, he.2]
  have hels : ∀ (f : Nat) (els : List JElem),
      (if els.any (fun e => e.rule == k.rule && e.scen == k.scen && e.bg == bg) then
          jsonUpd.updFirstJ (fun e => e.rule == k.rule && e.scen == k.scen && e.bg == bg) g els
        else els ++ [g ⟨k.rule, k.scen, bg, [], [], []⟩]).flatMap (elemFacts f) ~
      els.flatMap (elemFacts f) ++ new.map (fun p => (f, k.rule, k.scen, bg, p.1, p.2)) := by
    intro f els
    split
    · rename_i hex
      exact updFirstJ_flatMap _ _ _ _ _ hex (fun a _ ha => by rw [helem f a ha])
    · simp only [flatMap_append, flatMap_cons, flatMap_nil, append_nil]
      rw [helem f ⟨k.rule, k.scen, bg, [], [], []⟩ (by simp)]
      simp [elemFacts]
  unfold jsonUpd docFacts
  simp only
  split
  · rename_i hex
    apply updFirstJ_flatMap _ _ _ _ _ hex
    intro x _ hx
    cases x with
    | errors i => simp at hx
    | feature f els =>
      simp only [Bool.true_and, beq_iff_eq] at hx
      subst hx
      exact hels _ els
  · simp only [flatMap_append, flatMap_cons, flatMap_nil, append_nil, featFacts]
    exact Perm.append_left _ (by simpa using hels k.feat [])

theorem jsonHandle_facts (doc : List JFeat) (e : Ev) :
    docFacts (jsonHandle (fun _ => true) doc e) ~ docFacts doc ++ (evJFact e).toList := by
  have hid : ∀ (k : ScenKey) (bg : Bool) (g : JElem → JElem),
      (∀ x : JElem, (g x).steps = x.steps ∧ (g x).rule = x.rule ∧ (g x).scen = x.scen ∧ (g x).bg = x.bg) →
      docFacts (jsonUpd (fun _ => true) doc k bg g) ~ docFacts doc := by
    intro k bg g hg
    have := jsonUpd_facts doc k bg g [] (fun x => by simpa using hg x)
    simpa using this
  have hstep : ∀ (k : ScenKey) (bg : Bool) (i : Nat) (r : StepRes),
      docFacts (match statusOf r with
        | none => jsonUpd (fun _ => true) doc k bg id
        | some st => jsonUpd (fun _ => true) doc k bg (fun e => { e with steps := e.steps ++ [(i, st)] })) ~
      docFacts doc ++ ((statusOf r).map (fun st => (k.feat, k.rule, k.scen, bg, i, st))).toList := by
    intro k bg i r
    cases statusOf r with
    | none => simpa using hid k bg id (by intro x; simp)
    | some st =>
      have := jsonUpd_facts doc k bg (fun e => { e with steps := e.steps ++ [(i, st)] }) [(i, st)] (by intro x; simp)
      simpa using this
  cases e with
  | scen k ret se =>
    cases se with
    | hook t r =>
      cases r with
      | started => simp [jsonHandle, evJFact]
      | _ =>
        simp only [jsonHandle, evJFact, Option.toList, append_nil]
        apply hid; intro x; split <;> simp
    | bg i r => exact hstep k true i r
    | step i r => exact hstep k false i r
    | _ => simp [jsonHandle, evJFact]
  | parseErr i => simp [jsonHandle, evJFact, docFacts, featFacts]
  | _ => simp [jsonHandle, evJFact]

/-- **Cucumber JSON states exactly the step facts of the run** (features with a source path): flattening
    the document — every step entry with its feature, rule, scenario and element type — gives a permutation of
    the step-result events received before run-Finished: nothing dropped, duplicated, invented or filed under
    another feature / scenario. (For path-less features this is false: `json_dup_false`, finding F-C14b.) -/
theorem json_step_facts (evs : List Ev) :
    docFacts (jsonRun (fun _ => true) evs) ~ (evs.takeWhile (fun e => !e.isFinished)).filterMap evJFact := by
  unfold jsonRun
  suffices ∀ (es : List Ev) (doc : List JFeat),
      docFacts (es.foldl (jsonHandle (fun _ => true)) doc) ~ docFacts doc ++ es.filterMap evJFact from by
    simpa [docFacts] using this _ []
  intro es
  induction es with
  | nil => intro doc; simp
  | cons e rest ih =>
    intro doc
    simp only [foldl_cons]
    rw [filterMap_cons_toList, ← append_assoc]
    exact (ih _).trans ((jsonHandle_facts doc e).append_right _)


def suiteCases : JSuite → Nat
  | .feature _ cs => cs.length
  | .errors _ => 0

def reportCases (r : List JSuite) : Nat := (r.map suiteCases).sum

def isAttemptFinished : Ev → Bool
  | .scen _ _ .finished => true
  | _ => false

def juFold (s : JU) (evs : List Ev) : Option JU := evs.foldl (fun (acc : Option JU) e => acc.bind (fun s => s.handle e)) (some s)

theorem juFold_none (evs : List Ev) : evs.foldl (fun (acc : Option JU) e => acc.bind (fun s => s.handle e)) none = none := by
  induction evs with
  | nil => rfl
  | cons e es ih => simpa using ih

theorem juFold_cons (s : JU) (e : Ev) (es : List Ev) : juFold s (e :: es) = (s.handle e).bind (fun s' => juFold s' es) := by
  simp only [juFold, foldl_cons, Option.bind_some]
  cases h : s.handle e with
  | none => simp [juFold_none]
  | some s' => simp

def juTied (q : SeqSt) (s : JU) : Prop := (q.feat.isSome ↔ s.suit.isSome)

theorem ju_step (q q' : SeqSt) (s s' : JU) (e : Ev) (ht : juTied q s) (hq : q.step e = some q') (hs : s.handle e = some s') :
    juTied q' s' ∧
    reportCases s'.report + (s'.suit.map (·.2.length)).getD 0 =
      reportCases s.report + (s.suit.map (·.2.length)).getD 0 + (if isAttemptFinished e then 1 else 0) := by
  have hf := SeqSt.feat_of_step hq
  unfold juTied at *
  rw [hf]
  cases e with
  | featStarted f =>
    simp only [SeqSt.step, Option.ite_none_right_eq_some, Bool.and_eq_true, Option.isNone_iff_eq_none] at hq
    have hnone : s.suit = none := by simpa [hq.1.1.1] using ht
    cases hs
    simp [hnone, isAttemptFinished]
  | featFinished f =>
    simp only [JU.handle] at hs
    cases hsu : s.suit with
    | none => simp [hsu] at hs
    | some x =>
      simp only [hsu, Option.some.injEq] at hs
      subst hs
      simp [reportCases, suiteCases, isAttemptFinished, sum_append]
  | scen k ret se =>
    cases se with
    | finished =>
      simp only [JU.handle] at hs
      cases hcs : caseStatus s.events with
      | none => simp [hcs] at hs
      | some st =>
        cases hsu : s.suit with
        | none => simp [hcs, hsu] at hs
        | some x =>
          simp only [hcs, hsu, Option.some.injEq] at hs
          subst hs
          refine ⟨by simpa [hsu] using ht, ?_⟩
          simp [isAttemptFinished]; omega
    | _ => cases hs; exact ⟨ht, by simp [isAttemptFinished]⟩
  | parseErr i => cases hs; exact ⟨ht, by simp [reportCases, suiteCases, isAttemptFinished, sum_append]⟩
  | _ => cases hs; exact ⟨ht, by simp [isAttemptFinished]⟩

theorem ju_run (q : SeqSt) (s s' : JU) (evs : List Ev) (ht : juTied q s) (hq : SeqOk q evs = true)
    (hs : juFold s evs = some s') :
    reportCases s'.report + (s'.suit.map (·.2.length)).getD 0 =
      reportCases s.report + (s.suit.map (·.2.length)).getD 0 + (evs.filter isAttemptFinished).length := by
  induction evs generalizing q s with
  | nil => simp only [juFold, foldl_nil, Option.some.injEq] at hs; subst hs; simp
  | cons e es ih =>
    simp only [SeqOk] at hq
    rw [juFold_cons] at hs
    cases hqe : q.step e with
    | none => simp [hqe] at hq
    | some q1 =>
      simp only [hqe] at hq
      cases hse : s.handle e with
      | none => simp [hse] at hs
      | some s1 =>
        simp only [hse, Option.bind_some] at hs
        obtain ⟨ht1, hc1⟩ := ju_step q q1 s s1 e ht hqe hse
        have := ih q1 s1 ht1 hq hs
        rw [this, hc1]
        by_cases hf : isAttemptFinished e = true
        · simp [hf]; omega
        · have hf' : isAttemptFinished e = false := by simpa using hf
          simp [hf']

/-- **JUnit: exactly one test case per finished scenario attempt** — for every normalized canonical stream
    (`SeqOk`) on which the writer hits no panic branch, the number of test cases in the closed suites plus
    those of the suite still open equals the number of attempt-Finished events received (retries are
    separate cases); each case's status is decided by `caseStatus` (`junit_case_status`). -/
theorem junit_one_case_per_attempt (evs : List Ev) (s' : JU) (hq : SeqOk {} evs = true) (hs : juFold {} evs = some s') :
    reportCases s'.report + (s'.suit.map (·.2.length)).getD 0 = (evs.filter isAttemptFinished).length := by
  have := ju_run {} {} s' evs (by simp [juTied]) hq hs
  simpa [reportCases] using this

theorem junitRun_eq (evs : List Ev) : junitRun evs = (juFold {} evs).map (·.report) := rfl

/-- non-vacuity on the example stream of the plain-text theorems: 2 finished attempts, 2 test cases -/
example : SeqOk {} basicEx = true ∧ (junitRun basicEx).map reportCases = some 2 ∧
    (basicEx.filter isAttemptFinished).length = 2 := by decide


end Cuke.C14
