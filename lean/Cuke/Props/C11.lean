import Cuke.Lemmas.NormalizeRun
/-!
# C11 — Normalize reorders any contract-abiding stream losslessly into sequential order
Model: `Cuke.Norm.handle`, `Cuke.normRun` (Cuke/Model/Normalize.lean); the Runner contract `Cuke.Contract`
(Cuke/Model/Contract.lean, a status ledger over the stream alone).

The hypotheses `SafeRun`, `StartsRun` (Cuke/Lemmas/NormalizeRun.lean) are the contract relative to the
normalizer's own bookkeeping: decidable, evaluated by the monitor, and implied by `Contract`.

* **T0 no panic** (`norm_T0_no_panic`), **T1 lossless** (`norm_T1_perm`, `norm_T1_complete`,
  `norm_T1_finished_last`), **T2 sequential output** (`norm_T2_sequential`), **T3 per-attempt order**
  (`norm_T3_order`), **T4 immediate forwarding** (`norm_T4_run_level`, `norm_finished_last`,
  `norm_passthrough_after_finished`, `norm_T4b_head_forwarded`), **T5 pass-through of sequential input**
  (`norm_passthrough_sequential`, `norm_idempotent`);
* `contract_implies_safeRun`: every stream the ledger accepts satisfies `SafeRun` and `StartsRun`;
  `norm_contract_whole_run`: all of the above from `Contract` alone.
-/
namespace Cuke.C11
open Cuke List Cuke.NormL Cuke.Mon

theorem norm_T1_perm (evs : List Ev) (hs : SafeRun Norm.init evs = true) :
    ∃ n outs, normRun Norm.init evs = some (n, outs) ∧ outs.flatten ++ buffered n ~ evs := by
  obtain ⟨n, outs, h1, _, h2, _⟩ := safeRun_spec Norm.init evs runInv_init hs
  exact ⟨n, outs, h1, by simpa [buffered_init] using h2⟩

/-- **T1 for complete streams.** For a contract-abiding stream that ends with run-Finished, the
    concatenation of everything forwarded is a permutation of the stream: exactly the same multiset of
    events, nothing dropped, duplicated or left behind. -/
theorem norm_T1_complete (pre : List Ev) (hs : SafeRun Norm.init (pre ++ [Ev.finished]) = true) :
    ∃ n outs, normRun Norm.init (pre ++ [Ev.finished]) = some (n, outs) ∧ outs.flatten ~ pre ++ [Ev.finished] ∧
      n.fin = .emitted := by
  obtain ⟨n, outs, hrun, hfin, hperm, _⟩ := norm_complete (pre ++ [Ev.finished]) (by simp) hs
  exact ⟨n, outs, hrun, hperm, hfin⟩

/-- run-Started, ParsingFinished and parser errors are forwarded by the very call that receives them,
    before anything else. -/
theorem norm_T4_run_level (n n' : Norm) (e : Ev) (out : List Ev) (hr : e.isRunLevel = true)
    (h : n.handle e = some (n', out)) : out.head? = some e := by
  rcases handle_eq_some h with ⟨_, _, rfl⟩ | ⟨_, n1, _, rfl, _⟩
  · rfl
  · simp [hr]

/-- run-Finished is forwarded by the call that receives it — after everything that was still owed —
    and is the LAST event that call forwards. -/
theorem norm_finished_last (n n' : Norm) (out : List Ev) (hfin : n.fin = .no)
    (h : n.handle Ev.finished = some (n', out)) : out.getLast? = some Ev.finished ∧ n'.fin = .emitted := by
  obtain ⟨n1, _, rfl, rfl⟩ := handle_no hfin h
  simp

/-- After run-Finished has been forwarded every further event passes through unchanged, at once. -/
theorem norm_passthrough_after_finished (n : Norm) (e : Ev) (h : n.fin = .emitted) :
    n.handle e = some (n, [e]) := by simp [Norm.handle, h]

/-- **T3 over a whole run.** For a contract-abiding stream `pre ++ [Finished]` and every attempt
    (scenario, retry counter): the events of that attempt are forwarded in exactly their original
    relative order — `proj κ output = proj κ input`. -/
theorem norm_T3_order (pre : List Ev) (hs : SafeRun Norm.init (pre ++ [Ev.finished]) = true) (κ : AKey) :
    ∃ n outs, normRun Norm.init (pre ++ [Ev.finished]) = some (n, outs) ∧
      proj κ outs.flatten = proj κ (pre ++ [Ev.finished]) := by
  obtain ⟨n, outs, hrun, _, _, hproj⟩ := norm_complete (pre ++ [Ev.finished]) (by simp) hs
  exact ⟨n, outs, hrun, hproj κ⟩

/-- the projection used here is the one the monitor `mon.c11` evaluates on real output -/
theorem proj_eq_monitor (κ : AKey) (l : List Ev) : proj κ l = Cuke.Mon.projAtt κ l := by
  unfold proj Cuke.Mon.projAtt
  congr 1
  funext e
  cases e <;> simp [evKey?]

/-- **T2 over a whole run.** For a contract-abiding stream `pre ++ [Finished]` everything `Normalize`
    forwards, taken together, is accepted by the strict sequential automaton: one feature open at a time,
    one rule or top-level attempt inside it, one attempt inside a rule, each attempt contiguous from its
    `Started` to its `Finished`, brackets properly nested, run-Finished last. -/
theorem norm_T2_sequential (pre : List Ev) (hnf : ∀ e ∈ pre, e ≠ Ev.finished)
    (hs : SafeRun Norm.init (pre ++ [Ev.finished]) = true) (hc : StartsRun Norm.init (pre ++ [Ev.finished]) = true) :
    ∃ n outs, normRun Norm.init (pre ++ [Ev.finished]) = some (n, outs) ∧ Cuke.Mon.seqOk outs.flatten = true := by
  obtain ⟨n1, outs1, hr1, hseq1, hw1, hok1, hno1, _⟩ :=
    norm_T2_from Norm.init pre runInv_init.ok rfl rfl rfl hnf (safeRun_append _ _ _ hs).1 (startsRun_append _ _ _ hc).1
  obtain ⟨n2, out, hs3, hh, hrun⟩ := safeRun_snoc Norm.init pre Ev.finished hs n1 outs1 hr1
  refine ⟨n2, outs1 ++ [out], hrun, ?_⟩
  -- the last call: everything still queued is closed, so the queue empties and run-Finished follows
  have hlast := handle_seq_finished n1 n2 out hok1 hw1 hno1 hs3 hh
  rw [seqOk_iff, flatten_append, seqRun_append, show seqRun {} outs1.flatten = _ from hseq1]
  simpa using hlast

/-- **T4b.** After any contract-abiding prefix (no run-Finished yet), if the output so far ends INSIDE an
    attempt (the sequential automaton, run over everything forwarded, shows that attempt open), then the next
    event of that attempt is forwarded by the very call that receives it, as the first thing — it does not
    wait for the attempt, the rule or the feature to finish. -/
theorem norm_T4b_head_forwarded (pre : List Ev) (hnf : ∀ e ∈ pre, e ≠ Ev.finished)
    (hs : SafeRun Norm.init pre = true) (hc : StartsRun Norm.init pre = true)
    (n : Norm) (outs : List (List Ev)) (hrun : normRun Norm.init pre = some (n, outs))
    (k : ScenKey) (ret : Option Retries) (ev : ScenEv)
    (hopen : seqRun {} outs.flatten = some (inAtt k.feat k.rule (some (k, ret))))
    (n' : Norm) (out : List Ev) (h : n.handle (.scen k ret ev) = some (n', out)) :
    out.head? = some (.scen k ret ev) := by
  obtain ⟨n0, outs0, hrun0, hseq, _, _, hno, hd⟩ := norm_T2_from Norm.init pre runInv_init.ok rfl rfl rfl hnf hs hc
  cases hrun.symm.trans hrun0
  exact head_event_forwarded n n' k ret ev out hno hd (Option.some.inj (hseq.symm.trans hopen)) h

/-- **Pass-through.** If the stream handed to `Normalize` is already sequential (accepted by the strict
    automaton `seqOk` — the very condition T2 establishes for the output), every call forwards exactly the
    event it received, at once: the per-call outputs are `[e₁], [e₂], …`. No further hypothesis. -/
theorem norm_passthrough_sequential (evs : List Ev) (h : seqOk evs = true) :
    ∃ n, normRun Norm.init evs = some (n, evs.map (fun e => [e])) := by
  rw [seqOk_iff, Option.isSome_iff_exists] at h
  obtain ⟨s, hs⟩ := h
  exact passthrough_from {} s evs rfl rfl hs

/-- hence `Normalize ∘ Normalize` forwards what `Normalize` forwards: the output of a contract-abiding run
    is a fixed point -/
theorem norm_idempotent (pre : List Ev) (hnf : ∀ e ∈ pre, e ≠ Ev.finished)
    (hs : SafeRun Norm.init (pre ++ [Ev.finished]) = true) (hc : StartsRun Norm.init (pre ++ [Ev.finished]) = true) :
    ∃ n outs n2, normRun Norm.init (pre ++ [Ev.finished]) = some (n, outs) ∧
      normRun Norm.init outs.flatten = some (n2, outs.flatten.map (fun e => [e])) := by
  obtain ⟨n, outs, hrun, hseq⟩ := norm_T2_sequential pre hnf hs hc
  obtain ⟨n2, h2⟩ := norm_passthrough_sequential outs.flatten hseq
  exact ⟨n, outs, n2, hrun, h2⟩

/-- **T1 over a whole run, run-Finished last.** A contract-abiding stream `pre ++ [Finished]` (no other run-Finished)
    comes out as `pre' ++ [Finished]` where `pre'` is a permutation of `pre`: the same multiset of events,
    and run-Finished is the very last event forwarded. -/
theorem norm_T1_finished_last (pre : List Ev) (hnf : ∀ e ∈ pre, e ≠ Ev.finished)
    (hs : SafeRun Norm.init (pre ++ [Ev.finished]) = true) :
    ∃ n outs pre', normRun Norm.init (pre ++ [Ev.finished]) = some (n, outs) ∧
      outs.flatten = pre' ++ [Ev.finished] ∧ pre' ~ pre := by
  obtain ⟨n1, outs1, hr1, hn1, hp1, _, _, hno⟩ := safeRun_spec Norm.init pre runInv_init (safeRun_append _ _ _ hs).1
  have hno : n1.fin = .no := hno rfl hnf
  obtain ⟨n2, out, hs3, hh, hrun⟩ := safeRun_snoc Norm.init pre Ev.finished hs n1 outs1 hr1
  obtain ⟨hp, _, _, hA, _, _⟩ := handle_step n1 n2 Ev.finished out hn1.ok hn1.fin hs3 hh
  rw [(hA rfl (by rw [hno]; decide)).1, append_nil] at hp
  -- the last call forwards what was still owed, then run-Finished
  obtain ⟨m, _, rfl, _⟩ := handle_no hno hh
  simp only [Ev.isRunLevel, Bool.false_eq_true, if_false, nil_append, beq_self_eq_true, if_true] at hp hrun
  refine ⟨n2, _, outs1.flatten ++ (emitFeats m.feats).1, hrun, by simp, ?_⟩
  have h1 : (emitFeats m.feats).1 ~ buffered n1 := (perm_append_right_iff [Ev.finished]).mp hp
  exact (h1.append_left outs1.flatten).trans (hp1.trans (by simp [buffered_init]))

/-! ## Non-vacuity: an interleaved contract-abiding stream -/
def ka : ScenKey := ⟨1, none, 10⟩
def kb : ScenKey := ⟨2, some 5, 20⟩
def exStream : List Ev :=
  [.started, .featStarted 1, .featStarted 2, .ruleStarted 2 5, .scen kb none .started, .scen ka none .started,
   .scen kb none .finished, .ruleFinished 2 5, .featFinished 2, .scen ka none .finished, .featFinished 1, .finished]

example : SafeRun Norm.init exStream = true := by decide +kernel
example : StartsRun Norm.init exStream = true := by decide +kernel
/-- T2 on the interleaved example -/
example : (normRun Norm.init exStream).map (fun r => seqOk r.2.flatten) = some true ∧ seqOk exStream = false := by
  decide +kernel
example : (normRun Norm.init exStream).map (fun r => r.2.flatten) =
    some [.started, .featStarted 1, .scen ka none .started, .scen ka none .finished, .featFinished 1,
          .featStarted 2, .ruleStarted 2 5, .scen kb none .started, .scen kb none .finished, .ruleFinished 2 5,
          .featFinished 2, .finished] := by decide +kernel

/-- T3 on the interleaved example: attempt `ka`'s events come out in their original order although
    `kb`'s were received in between -/
example : (normRun Norm.init exStream).map (fun r => proj (ka, none) r.2.flatten) =
    some (proj (ka, none) exStream) ∧ (proj (ka, none) exStream).length = 2 := by decide +kernel

/-! ## The contract, stated without reference to the normalizer

`Cuke.Contract` (Cuke/Model/Contract.lean) is a status ledger over the STREAM alone. It implies `SafeRun`
and `StartsRun` — so every theorem above holds for every stream the ledger accepts — and that no
`panic!` / `unreachable!` branch of `Normalize` is reached (T0 proper). Invariant and lemmas:
Cuke/Lemmas/NormalizeContract.lean. -/

/-- **Contract ⇒ hypotheses of the C11 theorems.** Every stream accepted by the status ledger satisfies
    `SafeRun` and `StartsRun`. -/
theorem contract_implies_safeRun (evs : List Ev) (h : Contract evs = true) :
    SafeRun Norm.init evs = true ∧ StartsRun Norm.init evs = true :=
  contract_safeRun_from {} Norm.init evs runInv_init.ok runInv_init.d (Or.inl ⟨rfl, rfl, inv_init⟩) h

/-- **T0.** On a contract-abiding stream — of any length, any interleaving of concurrently running scenarios,
    anything at all after run-Finished — `Normalize` never reaches one of its `panic!("no Feature")`,
    `panic!("no Rule")` / `unreachable!()` branches. -/
theorem norm_T0_no_panic (evs : List Ev) (h : Contract evs = true) :
    ∃ n outs, normRun Norm.init evs = some (n, outs) :=
  (safeRun_spec Norm.init evs runInv_init (contract_implies_safeRun evs h).1).imp fun _ h => h.imp fun _ h => h.1

/-- **C11, whole run, from the contract alone.** For every contract-abiding stream `pre ++ [Finished]`:
    no panic; the output is `pre' ++ [Finished]` with `pre'` a permutation of `pre` (nothing lost, nothing
    duplicated, run-Finished last); the output is sequential (accepted by the strict automaton); and every
    attempt's events come out in their original relative order. -/
theorem norm_contract_whole_run (pre : List Ev) (hnf : ∀ e ∈ pre, e ≠ Ev.finished)
    (h : Contract (pre ++ [Ev.finished]) = true) :
    ∃ n outs pre', normRun Norm.init (pre ++ [Ev.finished]) = some (n, outs) ∧
      outs.flatten = pre' ++ [Ev.finished] ∧ pre' ~ pre ∧
      Cuke.Mon.seqOk outs.flatten = true ∧
      ∀ κ : AKey, proj κ outs.flatten = proj κ (pre ++ [Ev.finished]) := by
  obtain ⟨hs, hc⟩ := contract_implies_safeRun _ h
  obtain ⟨n, outs, pre', hrun, hflat, hperm⟩ := norm_T1_finished_last pre hnf hs
  refine ⟨n, outs, pre', hrun, hflat, hperm, ?_, ?_⟩
  · obtain ⟨n2, outs2, hrun2, hseq⟩ := norm_T2_sequential pre hnf hs hc
    cases hrun.symm.trans hrun2
    exact hseq
  · intro κ
    obtain ⟨n3, outs3, hrun3, hp⟩ := norm_T3_order pre hs κ
    cases hrun.symm.trans hrun3
    exact hp

/-- non-vacuity: the interleaved example stream is contract-abiding, and so is one with a retried attempt
    and events after run-Finished -/
example : Contract exStream = true := by decide +kernel
example : Contract [.started, .featStarted 1, .scen ka (some ⟨0, 1⟩) .started, .featStarted 2, .ruleStarted 2 5,
    .scen ka (some ⟨0, 1⟩) (.step 0 (.failed .notFound)), .scen kb none .started, .scen ka (some ⟨0, 1⟩) .finished,
    .scen ka (some ⟨1, 0⟩) .started, .scen kb none .finished, .scen ka (some ⟨1, 0⟩) .finished, .ruleFinished 2 5,
    .featFinished 1, .featFinished 2, .finished, .scen ka none .started] = true := by decide +kernel
/-- … and the ledger rejects what the contract forbids -/
example : Contract [.featStarted 1, .scen ka none .started, .featFinished 1] = false ∧   -- closing over an open attempt
    Contract [.featStarted 1, .featFinished 1, .featStarted 1] = false ∧                    -- re-opening
    Contract [.featStarted 1, .scen ka none (.step 0 .started)] = false ∧                   -- attempt without Started
    Contract [.scen ka none .started] = false ∧                                             -- outside any feature
    Contract [.featStarted 1, .finished] = false := by decide +kernel                       -- run-Finished over an open feature

end Cuke.C11
