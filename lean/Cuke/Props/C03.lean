import Cuke.Lemmas.SchedRunLevel
import Cuke.Lemmas.SchedFin
import Cuke.Lemmas.SchedFinRule
import Cuke.Props.C05
import Cuke.Lemmas.Sched
import Cuke.Lemmas.SchedLts
import Cuke.Model.SchedMon
import Cuke.Lemmas.Brackets
import Cuke.Lemmas.SchedBrackets
import Cuke.Lemmas.SchedOrder
import Cuke.Lemmas.SchedExit
/-!
# C03 — Event stream framing: run/feature/rule brackets are exact and properly nested
Model: `Cuke.startScenarios`, `Cuke.scenarioFinished`, `Cuke.finishAll`, the run-level labels of the
scheduler LTS (`hookTake`, `pErr`, `pEnd`, `idle fin`, classes B, I, R, FF) and the monitor
`Cuke.SMon.framed` (the property's wording on a run log).
-/
namespace Cuke.C03
open Cuke List

/-- The first thing `execute` owes the stream is exactly one run-Started. -/
theorem started_expected_first (c : SCfg) (s : SState) :
    (stepL c s .hookTake).expect = s.expect ++ [.one .started] := by
  rw [SchedStep.stepL_eq]
  rfl

/-- Each parser error is owed exactly once, numbered in delivery order. -/
theorem parse_error_expected (c : SCfg) (s : SState) :
    (stepL c s .pErr).expect = s.expect ++ [.one (.parseErr s.nextPE)] ∧ (stepL c s .pErr).nextPE = s.nextPE + 1 := by
  rw [SchedStep.stepL_eq]
  exact ⟨rfl, rfl⟩

/-- When the parser ends, ParsingFinished is owed with exactly the counts accumulated from the items
    actually received. -/
theorem parsing_finished_counts (c : SCfg) (s : SState) :
    (stepL c s .pEnd).expect =
      s.expect ++ [.one (.parsingFinished s.cFeatures s.cRules s.cScenarios s.cSteps s.cErrors)] := by
  rw [SchedStep.stepL_eq]
  rfl

/-- A delivered feature adds its own numbers: 1 feature, its rules, all its scenarios (rules included),
    the steps of those scenarios (background steps are not counted, as `count_steps` is written). -/
theorem feature_counts (c : SCfg) (s : SState) (f : Nat) (ft : SFeat) (h : c.feat? f = some ft) (hs : s.parserStopped = false) :
    let s' := stepL c s (.pOk f)
    s'.cFeatures = s.cFeatures + 1 ∧ s'.cRules = s.cRules + ft.rules.length ∧
    s'.cScenarios = s.cScenarios + ft.countScenarios ∧ s'.cSteps = s.cSteps + ft.countSteps := by
  simp [stepL, h, hs]

/-- At loop exit: Finished for every still-open rule, then for every still-open feature, then exactly
    one run-Finished. -/
theorem exit_expectations (c : SCfg) (s : SState) (sleep : Bool) :
    ∃ pre, (stepL c s (.idle true sleep)).expect =
      pre ++ [.anyOf (s.br.rules.map (fun e => Ev.ruleFinished e.1.1 e.1.2)),
              .anyOf (s.br.feats.map (fun e => Ev.featFinished e.1)), .one .finished] ∧ pre = s.expect := by
  refine ⟨s.expect, ?_, rfl⟩
  rw [SchedStep.stepL_eq]
  simp [SchedStep.stepD, finishAll]

def openFeat (b : Brackets) (f : Nat) : Bool := b.feats.any (fun e => e.1 == f)

theorem foldl_feats_open (fs : List Nat) (acc : List (Nat × Nat) × List Nat) (f : Nat)
    (h : acc.1.any (fun e => e.1 == f) = true) :
    (fs.foldl (fun (acc : List (Nat × Nat) × List Nat) f =>
      if acc.1.any (fun e => e.1 == f) then acc else (acc.1 ++ [(f, 0)], acc.2 ++ [f])) acc).1.any (fun e => e.1 == f) = true := by
  induction fs generalizing acc with
  | nil => exact h
  | cons x xs ih =>
    simp only [foldl_cons]
    apply ih
    split
    · exact h
    · simp [h]

/-- No Started for nothing: an empty batch starts no bracket and emits no event. -/
theorem startScenarios_nil (b : Brackets) : startScenarios b [] = (b, []) := by
  simp [startScenarios, dedupAdj]

/-- A feature that is already open is not started again, whatever the batch. -/
theorem startScenarios_single_open (b : Brackets) (e : Entry) (h : openFeat b e.key.feat = true) (hr : e.key.rule = none) :
    startScenarios b [e] = (b, []) := by
  simp only [openFeat] at h
  simp [startScenarios, dedupAdj, hr, h]

/-- The first scenario of a feature opens its bracket: exactly one Feature::Started, count 0. -/
theorem startScenarios_single_new (b : Brackets) (e : Entry) (h : openFeat b e.key.feat = false) (hr : e.key.rule = none) :
    startScenarios b [e] = ({ b with feats := b.feats ++ [(e.key.feat, 0)] }, [Ev.featStarted e.key.feat]) := by
  simp only [openFeat] at h
  simp [startScenarios, dedupAdj, hr, h]

/-- A retried attempt's end neither counts nor closes anything ("retries included" in the bracket). -/
theorem retried_end_keeps_bracket (b : Brackets) (k : ScenKey) (nR nF : Nat) :
    scenarioFinished b k true nR nF = some (b, []) := SchedFin.scenFin_retried b k nR nF

/-- A final end of a top-level scenario: Feature::Finished is emitted exactly when the number of finished
    scenarios reaches the feature's total, and then the bracket entry is removed (so it can never be
    emitted twice). -/
theorem final_end_top_level (b : Brackets) (k : ScenKey) (nR nF cnt : Nat) (hr : k.rule = none)
    (hf : b.feats.find? (fun e => e.1 == k.feat) = some (k.feat, cnt)) :
    scenarioFinished b k false nR nF =
      if nF == cnt + 1 then
        some ({ feats := b.feats.filter (fun e => !(e.1 == k.feat)), rules := b.rules }, [Ev.featFinished k.feat])
      else some ({ feats := b.feats.map (fun e => if e.1 == k.feat then (e.1, cnt + 1) else e), rules := b.rules }, []) := by
  simp [scenarioFinished, hr, hf]

/-- A rule scenario's final end: Rule::Finished (if the rule is complete) comes BEFORE Feature::Finished
    (proper nesting). -/
theorem rule_finished_before_feature (b : Brackets) (k : ScenKey) (r nR nF cr cf : Nat) (hr : k.rule = some r)
    (h1 : b.rules.find? (fun e => e.1 == (k.feat, r)) = some ((k.feat, r), cr))
    (h2 : b.feats.find? (fun e => e.1 == k.feat) = some (k.feat, cf))
    (hR : nR = cr + 1) (hF : nF = cf + 1) :
    ∃ b', scenarioFinished b k false nR nF = some (b', [Ev.ruleFinished k.feat r, Ev.featFinished k.feat]) := by
  simp [scenarioFinished, hr, h1, h2, hR, hF]

/-- Closing at exit: one Finished per open rule and per open feature, nothing for the others. -/
theorem finishAll_exact (b : Brackets) :
    (finishAll b).1.length = b.rules.length ∧ (finishAll b).2.length = b.feats.length ∧
    (∀ f, Ev.featFinished f ∈ (finishAll b).2 ↔ ∃ n, (f, n) ∈ b.feats) := by
  refine ⟨by simp [finishAll], by simp [finishAll], ?_⟩
  intro f
  simp only [finishAll, mem_map]
  constructor
  · rintro ⟨e, he, h⟩
    injection h with h
    exact ⟨e.2, by rw [← h]; exact he⟩
  · rintro ⟨n, hn⟩
    exact ⟨(f, n), hn, rfl⟩

/-- An event the model does not expect is a disagreement (brackets: class B, run level: class I). -/
theorem unexpected_bracket_flagged (c : SCfg) (s : SState) (f : Nat) (h : takeExp (.featStarted f) s.expect = none) :
    (stepL c s (.tx (.featStarted f))).dis.any (fun d => d.cls == .B) = true := by
  simp [stepL, h, SState.note, List.any_append]

/-! ## Non-vacuity: the monitor `framed` on a complete run (one feature, one scenario) -/
def k2 : ScenKey := ⟨1, none, 2⟩
def exCfg : SCfg :=
  { builderConc := none, cliConc := none, builderFF := false, cliFF := false, builderRetries := none,
    cliRetries := none, builderAfter := none, cliAfter := none, customWhich := false, durTable := [],
    feats := [{ id := 1, tags := [], scens := [⟨2, [], 0⟩], rules := [] }] }
def exLog : List Label :=
  [.pOk 1, .ins 10 [] [⟨10, 2, none, none⟩], .pEnd, .tx (.parsingFinished 1 0 1 0 0), .pFinish,
   .hookTake, .tx .started, .get1 20 (some 64) 0 1, .get2 21 (.cont (some 64)) [10] false 0,
   .tx (.featStarted 1), .disp 1 (.cont (some 63)), .tx (.scen k2 none .started), .tx (.scen k2 none .finished),
   .endA 10 false false 30, .cons true, .notif 10 false false, .tx (.featFinished 1),
   .get1 40 (some 64) 0 0, .get2 41 (.cont (some 64)) [] false 0, .idle true false, .tx .finished, .hookRestore, .exit,
   .rx (.parsingFinished 1 0 1 0 0), .rx .started, .rx (.featStarted 1), .rx (.scen k2 none .started),
   .rx (.scen k2 none .finished), .rx (.featFinished 1), .rx .finished]

example : (finalChecks (accept exCfg exLog)).dis.isEmpty = true ∧ SMon.framed exCfg exLog = none := by
  decide +kernel

open Cuke.BrL in
/-- **Bracket ledger.** For EVERY sequence of dispatched batches and drained completion notifications
    (any batches, any order, retried or final, any scenario counts — as long as the bookkeeping does not hit a
    `panic!` branch): for every feature, #Started = #Finished + 1 if it is still in the map, else
    #Started = #Finished; likewise for every rule. So the Started / Finished events of one feature (rule)
    always alternate, beginning with Started: never two Started without a Finished in between, never a
    Finished without its Started. -/
theorem bracket_ledger (ops : List BOp) (b : Brackets) (out : List Ev)
    (h : brRun Brackets.empty ops = some (b, out)) : FeatLedger b out ∧ RuleLedger b out := by
  have hF : FeatLedger Brackets.empty [] := ⟨by simp [keysF, Brackets.empty], fun f => by simp [keysF, Brackets.empty, cnt]⟩
  have hR : RuleLedger Brackets.empty [] := ⟨by simp [keysR, Brackets.empty], fun f r => by simp [keysR, Brackets.empty, cnt]⟩
  simpa using brRun_ledgers Brackets.empty b ops [] out hF hR h

open Cuke.BrL in
/-- **Every bracket is closed exactly once by the end of the run**: after `finish_all_rules_and_features`
    (all open rules, then all open features) every feature and every rule has as many Finished as Started
    events — whatever happened before (retries still pending, fail-fast, lazily parsed features). -/
theorem brackets_balanced_at_exit (ops : List BOp) (b : Brackets) (out : List Ev)
    (h : brRun Brackets.empty ops = some (b, out)) :
    (∀ f, cnt (.featStarted f) (out ++ (finishAll b).1 ++ (finishAll b).2) =
            cnt (.featFinished f) (out ++ (finishAll b).1 ++ (finishAll b).2)) ∧
    (∀ f r, cnt (.ruleStarted f r) (out ++ (finishAll b).1 ++ (finishAll b).2) =
            cnt (.ruleFinished f r) (out ++ (finishAll b).1 ++ (finishAll b).2)) := by
  obtain ⟨hF, hR⟩ := bracket_ledger ops b out h
  exact finishAll_balances b out hF hR

/-- non-vacuity: two scenarios of a rule in one feature; the first ends retried, then both end finally -/
def ledgerOps : List Cuke.BrL.BOp :=
  let e (id scen : Nat) : Entry := { id := id, key := ⟨1, some 5, scen⟩, serial := false, ret := none, t0 := none }
  [.start [e 10 2, e 11 3], .fin ⟨1, some 5, 2⟩ true 2 2, .start [e 12 2], .fin ⟨1, some 5, 3⟩ false 2 2,
   .fin ⟨1, some 5, 2⟩ false 2 2]

example : (Cuke.BrL.brRun Brackets.empty ledgerOps).map (·.2) =
    some [.featStarted 1, .ruleStarted 1 5, .ruleFinished 1 5, .featFinished 1] := by decide +kernel


/-! `GoodB` = the log raised no class-B disagreement (an unexpected / missing bracket event, a notification the
bookkeeping has no entry for). `hist` = everything sent so far followed by everything still owed.
Lemmas/SchedBrackets.lean. -/

open Cuke.SchedBr Cuke.BrL in
/-- **Ledger at every moment of every run**: over sent ++ owed events, every feature (rule) has
    #Started = #Finished + 1 if it is still open in the bookkeeping, else #Started = #Finished — whatever
    the parser delivered, in whatever order attempts completed, with retries, fail-fast, parser errors. -/
theorem lts_bracket_ledger (c : SCfg) (ls : List Label) (hg : GoodB (accept c ls) = true) :
    FeatLedger (accept c ls).br (hist (accept c ls)) ∧ RuleLedger (accept c ls).br (hist (accept c ls)) :=
  foldl_binv c ls {} binv_init hg

open Cuke.SchedBr Cuke.BrL in
/-- **Balanced at the end**: in every run replayed without a class-B disagreement, once the bookkeeping is
    empty (after `finish_all_rules_and_features`) and nothing is owed any more (checked when the panic hook is
    restored), the stream that was actually SENT contains, for every feature and every rule, exactly as many
    Finished as Started events. -/
theorem lts_brackets_balanced (c : SCfg) (ls : List Label) (hg : GoodB (accept c ls) = true)
    (hb : (accept c ls).br = Brackets.empty) (he : expEvents (accept c ls).expect = []) :
    (∀ f, cnt (.featStarted f) (accept c ls).out = cnt (.featFinished f) (accept c ls).out) ∧
    (∀ f r, cnt (.ruleStarted f r) (accept c ls).out = cnt (.ruleFinished f r) (accept c ls).out) :=
  accept_balanced c ls hg hb he

open Cuke.SchedBr in
/-- the hypotheses of `lts_brackets_balanced` are what a complete clean run ends in (non-vacuity), and a
    Finished bracket that is never sent is a class-B disagreement -/
example : GoodB (accept exCfg exLog) = true ∧ (accept exCfg exLog).br = Brackets.empty ∧
    expEvents (accept exCfg exLog).expect = [] ∧
    GoodB (accept exCfg (exLog.take 16 ++ exLog.drop 17)) = false := by decide +kernel


/-! `Clean0` = the log raised no disagreement of any class. Lemmas/SchedOrder.lean. -/

open Cuke.SchedOrd in
/-- **No scenario event before its brackets are opened.** In every run replayed without disagreement, whenever an
    event of scenario `k` is sent, the `Feature::Started` of its feature — and, if it sits in a rule, the
    `Rule::Started` of that rule — has been sent before: whatever the batches, the completion order, the retries, the
    moment the parser delivered the feature. (Chain: `get` returns a batch → `start_scenarios` opens its features and
    rules → by the bracket ledger their Started is sent or owed → at dispatch nothing is owed any more → scenario
    events are only accepted from dispatched attempts.) -/
theorem lts_started_before_scenario_events (c : SCfg) (ls : List Label) (k : ScenKey) (ret : Option Retries) (se : ScenEv)
    (hc : Clean0 (accept c (ls ++ [.tx (.scen k ret se)])) = true) :
    Ev.featStarted k.feat ∈ (accept c ls).out ∧ ∀ r, k.rule = some r → Ev.ruleStarted k.feat r ∈ (accept c ls).out := by
  rw [accept_snoc] at hc
  have hpre := clean0_step_mono c _ _ hc
  have hoi := accept_oinv c ls hpre
  obtain ⟨e, he, hk, -⟩ := tx_scen_clean hc
  have := hoi.2.2 e he
  unfold StartedIn at this
  rw [hk] at this
  exact this

/-- non-vacuity: the complete example run is replayed without any disagreement, and it sends scenario events -/
example : Cuke.SchedOrd.Clean0 (accept exCfg (exLog.take 12)) = true ∧
    exLog[11]? = some (.tx (.scen k2 none .started)) := by decide +kernel


open Cuke.SchedOrd Cuke.SchedExit in
/-- **After `execute` has taken its exit, no scenario event is sent.** In every run replayed without disagreement:
    once `is_finished` was true (label `idle true _`) nothing is in flight, nothing is dispatched any more, and no event
    of any scenario follows — so the Finished brackets that `finish_all_rules_and_features` emits at that point, and
    run-Finished, come after every scenario event of the run. -/
theorem lts_no_scenario_event_after_exit (c : SCfg) (pre post : List Label) (sl : Bool)
    (hc : Clean0 (accept c (pre ++ [.idle true sl] ++ post)) = true) :
    ∀ k ret se, Label.tx (.scen k ret se) ∉ post := exit_is_final c pre post sl hc

/-- non-vacuity: the complete example run takes its exit at label 19 and is clean to its end -/
example : exLog[19]? = some (.idle true false) ∧ Cuke.SchedOrd.Clean0 (accept exCfg (exLog.take 23)) = true := by
  decide +kernel

open Cuke.SchedFin Cuke.SchedSeq Cuke.SchedExit Cuke.SchedOrd in
/-- **Feature::Finished comes after the last event of the feature's scenarios (retries included).**
    In every log replayed without a disagreement of either acceptor layer: at the notification at which
    `FinishedRulesAndFeatures` counts the LAST scenario of feature `f` (where the model owes `Feature::Finished f`,
    `closes_owes_finished`), and at every later moment of the run, no attempt of any scenario of `f` is in flight … -/
theorem lts_feature_finished_after_last_attempt (c : SCfg) (hwf : WF c) (pre post : List Label) (id : Nat)
    (failed retried : Bool) (f : Nat) (hcl : closes c (acceptN c pre).base = some f)
    (hc : NClean (acceptN c (pre ++ .notif id failed retried :: post)) = true) :
    ∀ e ∈ (acceptN c (pre ++ .notif id failed retried :: post)).base.running, e.key.feat ≠ f :=
  fun e he hef => closed_not_running (featG c) hwf (featG_sound c hwf) pre post id failed retried f
    (closes_eq c _ ▸ hcl) hc e he (congrArg some hef)

open Cuke.SchedFin Cuke.SchedSeq Cuke.SchedOrd in
/-- … hence **no scenario event of the feature is ever sent after that notification**: the `Feature::Finished`
    the model owes from there on (and checks the implementation's stream against) comes after all events of the
    feature's scenarios. -/
theorem lts_no_scenario_event_after_feature_closed (c : SCfg) (hwf : WF c) (pre p1 p2 : List Label) (id : Nat)
    (failed retried : Bool) (f : Nat) (k : ScenKey) (ret : Option Retries) (se : ScenEv)
    (hcl : closes c (acceptN c pre).base = some f)
    (hc : NClean (acceptN c (pre ++ .notif id failed retried :: (p1 ++ .tx (.scen k ret se) :: p2))) = true) :
    k.feat ≠ f :=
  fun hkf => closed_no_event (featG c) hwf (featG_sound c hwf) pre p1 p2 id failed retried f k ret se
    (closes_eq c _ ▸ hcl) hc (congrArg some hkf)

/-- non-vacuity: in the retry example run (clean in both layers) the notification at position 24 closes feature 0, the
    model owes `Feature::Finished 0` right after it, and the run goes on (the event is sent, `get` is called again) -/
example : Cuke.SchedSeq.NClean (acceptN Cuke.C05.rcfg Cuke.C05.rlog) = true ∧
    Cuke.SchedFin.closes Cuke.C05.rcfg (acceptN Cuke.C05.rcfg (Cuke.C05.rlog.take 24)).base = some 0 ∧
    Cuke.C05.rlog[24]? = some (.notif 11 false false) ∧
    (acceptN Cuke.C05.rcfg (Cuke.C05.rlog.take 25)).base.expect.map (fun x => match x with | .one e => some e | _ => none) =
      [some (.featFinished 0)] := by decide +kernel
/-- the earlier notification (of the attempt that is retried) closes nothing -/
example : Cuke.SchedFin.closes Cuke.C05.rcfg (acceptN Cuke.C05.rcfg (Cuke.C05.rlog.take 16)).base = none := by decide +kernel

open Cuke.SchedFin Cuke.SchedFinR Cuke.SchedSeq Cuke.SchedExit Cuke.SchedOrd in
/-- **Rule::Finished comes after the last event of the rule's scenarios (retries included).** At the notification
    at which the last scenario of rule `(f, r)` is counted (where the model owes `Rule::Finished f r`,
    `closesR_owes_finished`) and at every later moment of a run that is clean in both layers, no attempt of a scenario of
    that rule is in flight … -/
theorem lts_rule_finished_after_last_attempt (c : SCfg) (hwf : WF c) (hwr : WFR c) (pre post : List Label) (id : Nat)
    (failed retried : Bool) (f r : Nat) (hcl : closesR c (acceptN c pre).base = some (f, r))
    (hc : NClean (acceptN c (pre ++ .notif id failed retried :: post)) = true) :
    ∀ e ∈ (acceptN c (pre ++ .notif id failed retried :: post)).base.running, ¬ (e.key.feat = f ∧ e.key.rule = some r) :=
  fun e he hef => closed_not_running (ruleG c) hwf (ruleG_sound c hwf hwr) pre post id failed retried (f, r)
    (closesR_eq c _ ▸ hcl) hc e he (by simp [ruleG, hef.1, hef.2])

open Cuke.SchedFin Cuke.SchedFinR Cuke.SchedSeq Cuke.SchedOrd in
/-- … hence no scenario event of the rule is ever sent after that notification. -/
theorem lts_no_scenario_event_after_rule_closed (c : SCfg) (hwf : WF c) (hwr : WFR c) (pre p1 p2 : List Label) (id : Nat)
    (failed retried : Bool) (f r : Nat) (k : ScenKey) (ret : Option Retries) (se : ScenEv)
    (hcl : closesR c (acceptN c pre).base = some (f, r))
    (hc : NClean (acceptN c (pre ++ .notif id failed retried :: (p1 ++ .tx (.scen k ret se) :: p2))) = true) :
    ¬ (k.feat = f ∧ k.rule = some r) :=
  fun hkf => closed_no_event (ruleG c) hwf (ruleG_sound c hwf hwr) pre p1 p2 id failed retried (f, r) k ret se
    (closesR_eq c _ ▸ hcl) hc (by simp [ruleG, hkf.1, hkf.2])

/-- the catalog of the C07 witness run (a feature with a rule) satisfies the rule well-formedness -/
example : Cuke.SchedFinR.ruleScenIds ⟨0, [], [⟨1, [], 1⟩], [⟨7, [], [⟨2, [], 1⟩, ⟨3, [], 1⟩]⟩]⟩ 7 = [2, 3] := by decide

/-! non-vacuity for the rule clause: the retry example run with its scenario inside a rule -/
def rcfgR : SCfg :=
  { Cuke.C05.rcfg with feats := [⟨0, [], [], [⟨7, [], [Cuke.C05.sr]⟩]⟩] }
def kr : ScenKey := ⟨0, some 7, 1⟩
def rlogR : List Label :=
  [.hookTake, .tx .started, .pOk 0, .ins 0 [] [⟨10, 1, some ⟨0, 2⟩, none⟩], .pEnd, .tx (.parsingFinished 1 1 1 1 0), .pFinish,
   .get1 1 (some 2) 0 1, .get2 1 (.cont (some 2)) [10] false 0, .tx (.featStarted 0), .tx (.ruleStarted 0 7), .disp 1 (.cont (some 1)),
   .tx (.scen kr (some ⟨0, 2⟩) .started), .tx (.scen kr (some ⟨0, 2⟩) .finished),
   .ins 2 [] [⟨11, 1, some ⟨1, 1⟩, none⟩], .endA 10 true true 2,
   .cons true, .notif 10 true true,
   .get1 3 (some 2) 0 1, .get2 3 (.cont (some 2)) [11] false 0, .disp 1 (.cont (some 1)),
   .tx (.scen kr (some ⟨1, 1⟩) .started), .tx (.scen kr (some ⟨1, 1⟩) .finished), .endA 11 false false 4,
   .cons true, .notif 11 false false, .tx (.ruleFinished 0 7), .tx (.featFinished 0),
   .get1 5 (some 2) 0 0, .get2 5 (.cont (some 2)) [] false 0, .idle true false, .tx .finished, .hookRestore, .exit]

theorem rcfgR_wf : Cuke.SchedSeq.WF rcfgR := .single rfl (by decide)

theorem rcfgR_wfr : Cuke.SchedFinR.WFR rcfgR := .single rfl rfl (by decide) (by simp)

/-- the run is clean in both layers; the notification at position 25 closes rule (0, 7) AND feature 0; the model owes
    `Rule::Finished` then `Feature::Finished` -/
example : Cuke.SchedSeq.NClean (acceptN rcfgR rlogR) = true ∧
    Cuke.SchedFinR.closesR rcfgR (acceptN rcfgR (rlogR.take 25)).base = some (0, 7) ∧
    Cuke.SchedFin.closes rcfgR (acceptN rcfgR (rlogR.take 25)).base = some 0 ∧
    (acceptN rcfgR (rlogR.take 26)).base.expect.map (fun x => match x with | .one e => some e | _ => none) =
      [some (.ruleFinished 0 7), some (.featFinished 0)] := by decide +kernel

open Cuke.SchedRunLevel Cuke.SchedBr Cuke.BrL in
/-- **Exactly one run-Started, exactly one run-Finished — counted over sent and owed events, at every moment.** In
    every log replayed without a disagreement: before `execute` takes the panic hook neither event is sent or owed; from
    then on exactly one run-`Started` is (sent or owed); from the exit decision on exactly one run-`Finished` is, and
    none before it. -/
theorem lts_run_brackets_ledger (c : SCfg) (ls : List Label) (hc : SchedOrd.Clean0 (accept c ls) = true) :
    cnt .started (hist (accept c ls)) = (if (accept c ls).phase = .init then 0 else 1) ∧
    cnt .finished (hist (accept c ls)) =
      (if (accept c ls).phase = .exiting ∨ (accept c ls).phase = .exited then 1 else 0) := by
  have h := rinv_accept c ls hc
  unfold RInv at h
  refine ⟨?_, ?_⟩
  · rw [h.1]; cases hp : (accept c ls).phase <;> simp [pc]
  · rw [h.2]; cases hp : (accept c ls).phase <;> simp [pc]

open Cuke.SchedRunLevel Cuke.SchedBr Cuke.BrL in
/-- **A complete run SENDS exactly one run-Started and exactly one run-Finished.** For every log replayed without a
    disagreement that reached `EXIT` with nothing owed (the end-of-run check `finalChecks`), the stream that was sent
    holds exactly one run-`Started` and exactly one run-`Finished`. -/
theorem lts_run_started_finished_exactly_once (c : SCfg) (ls : List Label) (hc : SchedOrd.Clean0 (accept c ls) = true)
    (hx : (accept c ls).phase = .exited) (he : expEmpty (accept c ls).expect = true) :
    (accept c ls).out.count .started = 1 ∧ (accept c ls).out.count .finished = 1 := by
  have h := lts_run_brackets_ledger c ls hc
  have hee := expEvents_empty _ he
  simp only [hist, hee, List.append_nil, hx] at h
  simpa [cnt] using h

/-- non-vacuity: the complete run `C05.rlog` -/
example : SchedOrd.Clean0 (accept Cuke.C05.rcfg Cuke.C05.rlog) = true ∧ (accept Cuke.C05.rcfg Cuke.C05.rlog).phase = .exited ∧
    expEmpty (accept Cuke.C05.rcfg Cuke.C05.rlog).expect = true ∧
    (accept Cuke.C05.rcfg Cuke.C05.rlog).out.count .started = 1 := by
  decide +kernel

end Cuke.C03
