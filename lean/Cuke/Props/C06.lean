import Cuke.Lemmas.SchedOrder
import Cuke.Lemmas.Sched
import Cuke.Model.SchedLts
import Cuke.Lemmas.SchedInv
import Cuke.Props.C07
import Cuke.Props.C05
import Cuke.Lemmas.SchedSpin
/-!
# C06 — Never more scenarios in flight than the concurrency limit
Model: `Cuke.getBatch`, `Cuke.Slots.{ask,onDispatch,onConsume}`, `Cuke.SCfg.limit` and their use in the
scheduler LTS (`Cuke.stepL`). The acceptor replays real logs against these functions (classes K, Q).
-/
namespace Cuke.C06
open Cuke List Cuke.SchedL

/-- The limit is the CLI value if given, else the builder's (default 64, `none` = unlimited). -/
theorem limit_resolution (c : SCfg) :
    c.limit = match c.cliConc with
      | some k => some k
      | none => match c.builderConc with
        | none => some 64
        | some b => b := by
  unfold SCfg.limit
  cases c.cliConc <;> cases c.builderConc <;> simp

/-- `get` never hands out more than it was asked for. -/
theorem getBatch_length_le (ready : Entry → Bool) (n : Nat) (q : Queues) :
    (getBatch ready (some n) q).1.length ≤ n := Cuke.SchedL.getBatch_length_le ready n q

/-- Nothing is invented, duplicated or lost: batch and remaining queues partition the queues. -/
theorem getBatch_conserves (ready : Entry → Bool) (ask : Option Nat) (q : Queues) :
    (getBatch ready ask q).1 ++ ((getBatch ready ask q).2.1.serial ++ (getBatch ready ask q).2.1.conc) ~
      q.serial ++ q.conc := SchedCons.getBatch_perm ready ask q

/-- Everything handed out is ready (no unexpired retry delay). -/
theorem getBatch_all_ready (ready : Entry → Bool) (ask : Option Nat) (q : Queues) :
    ∀ e ∈ (getBatch ready ask q).1, ready e = true := Cuke.SchedL.getBatch_all_ready ready ask q

/-- **Work conservation** (the limit is reached): when no Serial entry is ready, `get` returns the
    longest possible prefix-by-queue-order of ready Concurrent entries: if it returns fewer than the
    `n` free slots, no ready Concurrent entry is left behind. -/
theorem get_maximal_ready_prefix (ready : Entry → Bool) (n : Nat) (q : Queues) (hn : 0 < n)
    (hs : ∀ e ∈ q.serial, ready e = false)
    (hlt : (getBatch ready (some n) q).1.length < n) :
    ∀ e ∈ (getBatch ready (some n) q).2.1.conc, ready e = false := by
  have hz : ((some n : Option Nat) == some 0) = false := by simp; omega
  have hnil := drainQ_none_ready ready (some 1) q.serial hs
  unfold getBatch at hlt ⊢
  simp only [hz, Bool.false_eq_true, if_false, hnil, isEmpty_nil, Bool.not_true] at hlt ⊢
  exact drainQ_maximal ready n q.conc hlt

/-- Unlimited concurrency: every ready Concurrent entry is dispatched. -/
theorem get_unlimited_takes_all (ready : Entry → Bool) (q : Queues) (hs : ∀ e ∈ q.serial, ready e = false) :
    ∀ e ∈ (getBatch ready none q).2.1.conc, ready e = false := by
  have hnil := drainQ_none_ready ready (some 1) q.serial hs
  unfold getBatch
  simp only [show ((none : Option Nat) == some 0) = false from rfl, Bool.false_eq_true, if_false, hnil, isEmpty_nil, Bool.not_true]
  exact drainQ_unlimited ready q.conc

/-- The abstract slot ledger: `free` slots and `inflight` attempts; `k` is the limit. -/
structure Ledger where
  free : Nat
  inflight : Nat
  deriving Repr, DecidableEq

/-- The bookkeeping of `execute`: a dispatch of `n ≤ free` attempts, or one consumed completion. -/
inductive LStep (k : Nat) : Ledger → Ledger → Prop
  | dispatch (l : Ledger) (n : Nat) (h : n ≤ l.free) : LStep k l ⟨l.free - n, l.inflight + n⟩
  | consume (l : Ledger) (h : 0 < l.inflight) : LStep k l ⟨l.free + 1, l.inflight - 1⟩

inductive LReach (k : Nat) : Ledger → Prop
  | init : LReach k ⟨k, 0⟩
  | step {a b : Ledger} : LReach k a → LStep k a b → LReach k b

/-- **Slots invariant**: free + in-flight = limit in every reachable state, hence never more than the
    limit in flight. -/
theorem slots_invariant (k : Nat) (l : Ledger) (h : LReach k l) : l.free + l.inflight = k := by
  induction h with
  | init => rfl
  | step _ st ih =>
    cases st with
    | dispatch n hn => simp only at *; omega
    | consume hn => simp only at *; omega

theorem inflight_le_limit (k : Nat) (l : Ledger) (h : LReach k l) : l.inflight ≤ k := by
  have := slots_invariant k l h; omega

/-- The ledger is what `Slots` implements: dispatching a batch `get` returned for `ask = free` and
    consuming a completion are exactly `onDispatch` / `onConsume`. -/
theorem slots_implements_ledger (f n : Nat) (hn : n ≤ f) :
    (Slots.cont (some f)).onDispatch n = .cont (some (f - n)) ∧
    (Slots.cont (some f)).onConsume = .cont (some (f + 1)) ∧
    (Slots.cont (some f)).ask = some f := ⟨rfl, rfl, rfl⟩

/-- a batch returned for `ask = free` respects the ledger's side condition `n ≤ free` -/
theorem batch_fits_free (ready : Entry → Bool) (f : Nat) (q : Queues) :
    (getBatch ready ((Slots.cont (some f)).ask) q).1.length ≤ f := getBatch_length_le ready f q

/-! ## Non-vacuity -/
def e1 : Entry := ⟨1, ⟨0, none, 1⟩, false, none, none⟩
def e2 : Entry := ⟨2, ⟨0, none, 2⟩, false, none, none⟩
def e3 : Entry := ⟨3, ⟨0, none, 3⟩, false, none, none⟩
example : (getBatch (fun _ => true) (some 2) ⟨[], [e1, e2, e3]⟩).1 = [e1, e2] := by decide
example : LReach 2 ⟨0, 2⟩ := LReach.step LReach.init (LStep.dispatch ⟨2, 0⟩ 2 (by decide))

open Cuke.SchedInv in
/-- Good at the end means Good all along: the acceptor only appends disagreements -/
theorem good_foldl_mono (c : SCfg) (ls : List Label) (s : SState) (hg : Good (ls.foldl (stepL c) s) = true) : Good s = true :=
  SchedStep.all_cls_foldl kiq c ls s hg

open Cuke.SchedInv in
theorem foldl_inv (c : SCfg) (ls : List Label) (s : SState) (h : InvK c s) (hg : Good (ls.foldl (stepL c) s) = true) :
    InvK c (ls.foldl (stepL c) s) :=
  SchedStep.all_cls_inv kiq c (InvK c) (step_inv c) ls s h hg

open Cuke.SchedInv in
/-- **The slot ledger is an invariant of every accepted run.** For every log of probe labels that the
    scheduler LTS accepts without a disagreement of classes K / I / Q (what the trace correspondence checks
    on every real run): before the hook is taken nothing runs; afterwards free + in-flight = limit (once
    fail-fast tripped: in-flight ≤ limit); and a batch returned by `get` fits the free slots. -/
theorem lts_slots_invariant (c : SCfg) (ls : List Label) (hg : Good (accept c ls) = true) : InvK c (accept c ls) :=
  foldl_inv c ls {} ⟨fun _ => ⟨rfl, rfl⟩, fun h => absurd rfl h, fun h => by cases h⟩ hg

open Cuke.SchedInv in
/-- **C06 over whole runs**: in an accepted run, at EVERY moment (after every prefix of the log) the number
    of scenario attempts in flight is at most the resolved limit — for every schedule, parser behaviour,
    retry pattern and fail-fast trip. -/
theorem lts_inflight_le_limit (c : SCfg) (ls : List Label) (k : Nat) (hk : c.limit = some k)
    (hg : Good (accept c ls) = true) (pre suf : List Label) (hsplit : ls = pre ++ suf) :
    (accept c pre).running.length + (accept c pre).endedUnconsumed ≤ k := by
  subst hsplit
  have hgp : Good (accept c pre) = true := by
    simp only [accept, foldl_append] at hg
    exact good_foldl_mono c suf _ hg
  have hinv := lts_slots_invariant c pre hgp
  by_cases hi : (accept c pre).phase = .init
  · obtain ⟨h1, h2⟩ := hinv.1 hi
    simp [h1, h2]
  · exact slotsOk_brk (hinv.2.1 hi k hk)  -- `slotsOk k .brk n` is `n ≤ k`

/-- the hypothesis is what the check establishes: the witness log of F-C07 (a real run shape) is accepted
    with no disagreement at all, hence Good -/
example : Cuke.SchedInv.Good (accept Cuke.C07.wcfg Cuke.C07.witness) = true := by decide +kernel

open Cuke.SchedInv Cuke.SchedOrd in
/-- **With a limit of 1, attempts run strictly one after another.** In every run replayed without a disagreement,
    whenever a scenario event is sent, the attempt it belongs to is the ONLY attempt in flight — so the events of
    two attempts never interleave: between the first and the last event of an attempt no other attempt exists. -/
theorem lts_limit_one_sequential (c : SCfg) (hk : c.limit = some 1) (ls : List Label)
    (hc : Clean0 (accept c ls) = true) (pre suf : List Label) (k : ScenKey) (ret : Option Retries) (se : ScenEv)
    (hsplit : ls = pre ++ .tx (.scen k ret se) :: suf) :
    ∃ e, (accept c pre).running = [e] ∧ e.key = k := by
  subst hsplit
  have hstep : Clean0 (stepL c (accept c pre) (.tx (.scen k ret se))) = true := by
    simp only [accept, foldl_append, foldl_cons] at hc
    exact clean0_foldl_mono c suf _ hc
  obtain ⟨e, hmem, hkey, -⟩ := tx_scen_clean hstep
  have hlen := lts_inflight_le_limit c (pre ++ .tx (.scen k ret se) :: suf) 1 hk (clean0_all _ hc).1 pre _ rfl
  cases hrun : (accept c pre).running with
  | nil => rw [hrun] at hmem; cases hmem
  | cons a rest =>
    rw [hrun] at hmem hlen
    cases rest with
    | nil =>
      simp only [mem_singleton] at hmem
      exact ⟨a, rfl, hmem ▸ hkey⟩
    | cons b rest' => simp at hlen; omega

/-- non-vacuity: the retry example run (C05.rcfg has a limit of 2, here lowered to 1) is replayed without any
    disagreement, and it sends scenario events of two attempts -/
example : Cuke.SchedOrd.Clean0 (accept { Cuke.C05.rcfg with builderConc := some (some 1) }
    (Cuke.C05.rlog.map (fun l => match l with
      | .get1 t (some 2) a b => .get1 t (some 1) a b
      | .get2 t (.cont (some 2)) g s r => .get2 t (.cont (some 1)) g s r
      | .disp n (.cont (some 1)) => .disp n (.cont (some 0))
      | l => l))) = true := by decide +kernel

open Cuke.SchedInv Cuke.SchedSpin in
/-- **User code of no more than `limit` scenarios is in progress.** In every log replayed without a disagreement, at
    every moment at which user code — a step, a hook, `World::new` — is entered, `execute` is awaiting its scenarios,
    the attempt the code belongs to is one of the attempts in flight, and at most `limit` attempts are in flight. (User
    code runs between such an entry and the matching exit, which the acceptor accepts under the same condition.) -/
theorem lts_user_code_within_limit (c : SCfg) (pre : List Label) (sc att t k : Nat) (hk : c.limit = some k)
    (hc : SchedOrd.Clean0 (accept c (pre ++ [.cbIn sc att t])) = true) :
    (accept c pre).phase = .selecting ∧ (∃ e ∈ (accept c pre).running, e.key.scen = sc ∧ attOf e = att) ∧
    (accept c pre).running.length ≤ k := by
  rw [SchedOrd.accept_snoc] at hc
  have hc0 : SchedOrd.Clean0 (accept c pre) = true := SchedOrd.clean0_step_mono c _ _ hc
  obtain ⟨hp, hex⟩ := cbIn_clean hc
  have hlim := lts_inflight_le_limit c pre k hk (SchedOrd.clean0_all _ hc0).1 pre [] (by simp)
  exact ⟨hp, hex, by omega⟩

/-- the same for the moment user code is left -/
theorem lts_user_code_exit_in_flight (c : SCfg) (pre : List Label) (sc att t : Nat)
    (hc : SchedOrd.Clean0 (accept c (pre ++ [.cbOut sc att t])) = true) :
    (accept c pre).phase = .selecting ∧ ∃ e ∈ (accept c pre).running, e.key.scen = sc ∧ SchedSpin.attOf e = att := by
  rw [SchedOrd.accept_snoc] at hc
  exact SchedSpin.cbOut_clean hc

/-- non-vacuity (the run of `C10.hlog`): user code of the attempt in flight is accepted; user code of a scenario that is
    not in flight, or entered while `execute` is not awaiting its scenarios, is a disagreement -/
example :
    SchedOrd.Clean0 (accept Cuke.C10.hcfg (Cuke.C10.hlog.take 12 ++ [.cbIn 1 0 5, .cbOut 1 0 6])) = true ∧
    SchedOrd.Clean0 (accept Cuke.C10.hcfg (Cuke.C10.hlog.take 12 ++ [.cbIn 2 0 5])) = false ∧
    SchedOrd.Clean0 (accept Cuke.C10.hcfg (Cuke.C10.hlog.take 10 ++ [.cbIn 1 0 5])) = false := by
  decide +kernel

end Cuke.C06
