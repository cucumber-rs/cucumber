import Cuke.Lemmas.SchedTrip
import Cuke.Lemmas.SchedSeq
import Cuke.Lemmas.SchedCount
import Cuke.Lemmas.Sched
import Cuke.Lemmas.SchedRetry
import Cuke.Model.SchedLts
import Cuke.Props.C10
/-!
# C05 — Retries: re-run exactly on failure within budget, fresh, sequential, delayed
Model: `Cuke.nextTry`, `Cuke.Retries.nextTry`, `Cuke.insertRetried`, `Cuke.leftUntilRetry`,
`Cuke.drainQ` and the `endA` / `ins` labels of the scheduler LTS (classes R, Q).
-/
namespace Cuke.C05
open Cuke List Cuke.SchedL

/-- **Retry decision**: a next attempt exists exactly when the attempt failed and a retry is left. -/
theorem retry_iff_failed_and_budget (o : RetryOptions) (failed : Bool) :
    (nextTry (some o) failed).isSome = true ↔ failed = true ∧ 0 < o.retries.left := by
  unfold nextTry RetryOptions.nextTry Retries.nextTry
  cases failed <;> simp
  split <;> simp_all <;> omega

/-- No retry options at all (no tag, no CLI/builder setting): never retried. -/
theorem no_options_never_retried (failed : Bool) : nextTry none failed = none := rfl

/-- A passed or merely skipped attempt (`failed = false`) is never retried. -/
theorem not_failed_never_retried (ret : Option RetryOptions) : nextTry ret false = none := by
  cases ret <;> simp [nextTry]

/-- "Failed" is: failed step, failed hook, or failed World creation — i.e. some Failed event (C10). -/
theorem failed_means_failure_event (sp : AttemptSpec) (wid : Nat) :
    (runAttempt sp wid).failed = true ↔ ∃ e ∈ (runAttempt sp wid).events, C10.isFailureEv e = true :=
  C10.failed_iff_failure_event sp wid

/-- **Counter values**: the next attempt carries `current + 1`, `left - 1`, and the same delay. -/
theorem retries_values (o o' : RetryOptions) (h : nextTry (some o) true = some o') :
    o'.retries.current = o.retries.current + 1 ∧ o'.retries.left + 1 = o.retries.left ∧ o'.after = o.after :=
  SchedRetry.nextTry_values h

/-- the k-th attempt of a scenario with budget `N`: `current = k`, `left = N - k` -/
def iterTry : Nat → RetryOptions → Option RetryOptions
  | 0, o => some o
  | k + 1, o => (iterTry k o).bind (fun x => nextTry (some x) true)

/-- **current = k, left = N - k, and at most N + 1 attempts.** Starting from `Retries::initial(N)`,
    attempt `k` exists iff `k ≤ N` and then carries exactly these values. -/
theorem attempts_values_and_bound (N : Nat) (after : Option Nat) (k : Nat) :
    iterTry k ⟨Retries.initial N, after⟩ =
      if k ≤ N then some ⟨⟨k, N - k⟩, after⟩ else none := by
  induction k with
  | zero => simp [iterTry, Retries.initial]
  | succ k ih =>
    simp only [iterTry, ih]
    by_cases h : k ≤ N
    · simp only [h, if_true, Option.bind_some, nextTry, RetryOptions.nextTry, Retries.nextTry]
      by_cases h2 : N - k = 0
      · have : ¬ (k + 1 ≤ N) := by omega
        simp [h2, this]
      · have : k + 1 ≤ N := by omega
        simp [h2, this]; omega
    · have : ¬ (k + 1 ≤ N) := by omega
      simp [h, this]

/-- A retried entry is put at the FRONT of its queue and, if it has a delay, stamped with the clock
    reading taken at that moment (after the failed attempt's Finished event). -/
theorem insertRetried_front (q : Queues) (e : Entry) (now : Nat) :
    (e.serial = true → ∃ e', (insertRetried q e now).serial = e' :: q.serial ∧ (insertRetried q e now).conc = q.conc ∧
        e'.id = e.id ∧ e'.ret = e.ret ∧ e'.t0 = (e.ret.bind (·.after)).map (fun _ => now)) ∧
    (e.serial = false → ∃ e', (insertRetried q e now).conc = e' :: q.conc ∧ (insertRetried q e now).serial = q.serial ∧
        e'.id = e.id ∧ e'.ret = e.ret ∧ e'.t0 = (e.ret.bind (·.after)).map (fun _ => now)) := by
  unfold insertRetried
  constructor <;> intro h <;> simp [h]

/-- **Delay respected**: an entry with delay `d` stamped at `t0` is ready only when strictly more than
    `d` has elapsed on the clock `get` reads. -/
theorem delay_respected (e : Entry) (o : RetryOptions) (d t0 now : Nat)
    (hr : e.ret = some o) (hd : o.after = some d) (ht : e.t0 = some t0) :
    e.ready now = true ↔ d < now - t0 := by
  simp [Entry.ready, leftUntilRetry, hr, hd, ht]
  omega

/-- Entries without a delay, and first attempts, are always ready. -/
theorem no_delay_always_ready (e : Entry) (now : Nat)
    (h : e.t0 = none ∨ e.ret = none ∨ ∃ o, e.ret = some o ∧ o.after = none) : e.ready now = true := by
  unfold Entry.ready leftUntilRetry
  rcases h with h | h | ⟨o, h1, h2⟩
  · cases hr : e.ret with
    | none => simp
    | some o => cases ha : o.after <;> simp [h, ha]
  · simp [h]
  · simp [h1, h2]

/-- Only ready entries are dispatched (so a delayed retry does not start early) … -/
theorem dispatched_are_ready (now : Nat) (ask : Option Nat) (q : Queues) :
    ∀ e ∈ (getBatch (fun e => e.ready now) ask q).1, e.ready now = true :=
  SchedL.getBatch_all_ready _ ask q

/-- … while other scenarios keep running meanwhile: a waiting (not ready) entry at the head of a queue
    does not block the ready entries behind it. -/
theorem others_not_blocked (ready : Entry → Bool) (cnt : Option Nat) (e : Entry) (rest : List Entry)
    (h0 : cnt ≠ some 0) (hr : ready e = false) :
    (drainQ ready cnt (e :: rest)).1 = (drainQ ready cnt rest).1 :=
  drainQ_skip_not_ready ready cnt e rest h0 hr

/-- The LTS accepts an attempt's end only with the model's retry verdict: any other `retried` flag is a
    class-R disagreement. -/
theorem end_label_checked (c : SCfg) (s : SState) (id : Nat) (failed retried : Bool) (t : Nat) (e : Entry)
    (he : s.running.find? (fun x => x.id == id) = some e)
    (hbad : retried ≠ (nextTry e.ret failed).isSome) :
    ∃ d ∈ (stepL c s (.endA id failed retried t)).dis, d.cls = .R := by
  simp only [stepL, he]
  have : (retried == (nextTry e.ret failed).isSome) = false := by simpa using hbad
  simp [this, SState.note]

/-! ## Non-vacuity -/
example : nextTry (some ⟨⟨0, 2⟩, some 5⟩) true = some ⟨⟨1, 1⟩, some 5⟩ := by decide
example : iterTry 2 ⟨Retries.initial 2, none⟩ = some ⟨⟨2, 0⟩, none⟩ := by decide
example : iterTry 3 ⟨Retries.initial 2, none⟩ = none := by decide


/-! `GoodRQ` = the log raised no disagreement of the classes R (retry decision) and Q (queue discipline).
Lemmas/SchedRetry.lean. -/

open Cuke.SchedRetry in
/-- **Lineage.** Every entry the scheduler holds at any moment of any clean run — queued, just handed out, or
    running — descends from the entry `Features::insert` built for a scenario of a delivered feature: the same
    scenario, the same serial flag, and its retry options are the initial ones moved some steps by `next_try`
    (`current + left` unchanged, same delay; no options stay no options). -/
theorem lts_retry_lineage (c : SCfg) (ls : List Label) (hg : GoodRQ (accept c ls) = true) :
    ∀ e ∈ ents (accept c ls), ∃ e0, Origin c e0 ∧ Desc e0 e :=
  foldl_rinv c ls {} (rinv_init c) hg

theorem initial_current_zero (c : SCfg) (ft : SFeat) (e0 : Entry) (o0 : RetryOptions) (h : e0 ∈ newEntries c ft)
    (hr : e0.ret = some o0) : o0.retries.current = 0 := by
  simp only [newEntries, List.mem_map] at h
  obtain ⟨rs, _, rfl⟩ := h
  simp only [parseFromTags] at hr
  split at hr
  · simp only [Option.some.injEq] at hr
    subst hr
    rfl
  · cases hr

open Cuke.SchedRetry in
/-- **Within budget, over whole runs.** In every clean run, an attempt that is queued, handed out or running with
    retry counter `current` belongs to a scenario whose resolved budget `N` (what `parse_from_tags` gave it when
    its feature was delivered) satisfies `current + left = N` — so `current ≤ N`: at most `N + 1` attempts, the
    last one with `left = 0` (which `next_try` refuses to retry, `retry_iff_failed_and_budget`); and the delay
    it carries is the scenario's own. -/
theorem lts_attempt_within_budget (c : SCfg) (ls : List Label) (hg : GoodRQ (accept c ls) = true)
    (e : Entry) (he : e ∈ ents (accept c ls)) (o : RetryOptions) (hr : e.ret = some o) :
    ∃ e0 o0, Origin c e0 ∧ e0.key = e.key ∧ e0.ret = some o0 ∧ o0.retries.current = 0 ∧
      o.retries.current + o.retries.left = o0.retries.left ∧ o.retries.current ≤ o0.retries.left ∧ o.after = o0.after := by
  obtain ⟨e0, horig, hk, _, hd⟩ := lts_retry_lineage c ls hg e he
  rw [hr] at hd
  cases h0 : e0.ret with
  | none => simp [h0, retDesc] at hd
  | some o0 =>
    rw [h0] at hd
    simp only [retDesc] at hd
    obtain ⟨ft, _, hmem⟩ := horig
    have hz := initial_current_zero c ft e0 o0 hmem h0
    refine ⟨e0, o0, ⟨ft, ‹_›, hmem⟩, hk.symm, h0, hz, by omega, by omega, hd.2⟩

open Cuke.SchedRetry in
/-- **Never retried without options, over whole runs.** A scenario that resolved to no retry options stays
    without them in every entry ever made for it — so `next_try` never grants it a second attempt. -/
theorem lts_no_options_never_retried (c : SCfg) (ls : List Label) (hg : GoodRQ (accept c ls) = true)
    (e : Entry) (he : e ∈ ents (accept c ls)) (hr : e.ret = none) (failed : Bool) :
    nextTry e.ret failed = none := by
  rw [hr]; rfl

/-! non-vacuity: a clean run with a retried attempt — the second attempt is running with `current = 1, left = 1`
    of a budget of 2 -/
def sr : SScen := ⟨1, ["retry(2)"], 1⟩
def rcfg : SCfg :=
  { builderConc := some (some 2), cliConc := none, builderFF := false, cliFF := false, builderRetries := none,
    cliRetries := none, builderAfter := none, cliAfter := none, customWhich := false, durTable := [],
    feats := [⟨0, [], [sr], []⟩] }
def k1 : ScenKey := ⟨0, none, 1⟩
def rlog : List Label :=
  [.hookTake, .tx .started, .pOk 0, .ins 0 [] [⟨10, 1, some ⟨0, 2⟩, none⟩], .pEnd, .tx (.parsingFinished 1 0 1 1 0), .pFinish,
   .get1 1 (some 2) 0 1, .get2 1 (.cont (some 2)) [10] false 0, .tx (.featStarted 0), .disp 1 (.cont (some 1)),
   .tx (.scen k1 (some ⟨0, 2⟩) .started), .tx (.scen k1 (some ⟨0, 2⟩) .finished),
   .ins 2 [] [⟨11, 1, some ⟨1, 1⟩, none⟩], .endA 10 true true 2,
   .cons true, .notif 10 true true,
   .get1 3 (some 2) 0 1, .get2 3 (.cont (some 2)) [11] false 0, .disp 1 (.cont (some 1)),
   .tx (.scen k1 (some ⟨1, 1⟩) .started), .tx (.scen k1 (some ⟨1, 1⟩) .finished), .endA 11 false false 4,
   .cons true, .notif 11 false false, .tx (.featFinished 0),
   .get1 5 (some 2) 0 0, .get2 5 (.cont (some 2)) [] false 0, .idle true false, .tx .finished, .hookRestore, .exit]

example : (finalChecks (accept rcfg rlog)).dis.isEmpty = true ∧ Cuke.SchedRetry.GoodRQ (accept rcfg rlog) = true := by
  decide +kernel
example : (accept rcfg (rlog.take 20)).running.map (fun e => (e.id, e.ret.map (·.retries))) = [(11, some ⟨1, 1⟩)] := by
  decide +kernel
/-- an entry numbered beyond the budget (`current = 3` of 2) shows up as a disagreement of class R / Q — such logs are
    outside the theorem's hypothesis for the right reason -/
example : Cuke.SchedRetry.GoodRQ (accept rcfg (rlog.take 22 ++ [.ins 4 [] [⟨12, 1, some ⟨2, 0⟩, none⟩], .ins 5 [] [⟨13, 1, some ⟨3, 0⟩, none⟩]])) = false := by
  decide +kernel

open Cuke.SchedSeq in
/-- **Attempts of one scenario never overlap.** In every log replayed without a disagreement of either layer,
    at every moment (the statement holds for every prefix, since a prefix of a clean log is clean), the attempts in
    flight belong to pairwise different scenarios. -/
theorem lts_attempts_never_overlap (c : SCfg) (hwf : WF c) (ls : List Label) (hc : NClean (acceptN c ls) = true) :
    ((acceptN c ls).base.running.map (·.key.scen)).Nodup :=
  (acceptN_ninv c hwf ls hc).rnd

open Cuke.SchedSeq in
/-- … a scenario never has two entries waiting (in the queues or in the batch `get` handed out) … -/
theorem lts_one_waiting_entry_per_scenario (c : SCfg) (hwf : WF c) (ls : List Label) (hc : NClean (acceptN c ls) = true) :
    (((acceptN c ls).base.q.serial ++ (acceptN c ls).base.q.conc ++ (acceptN c ls).base.batch).map (·.key.scen)).Nodup :=
  (acceptN_ninv c hwf ls hc).qnd

open Cuke.SchedSeq in
/-- … and it has a waiting entry AND an attempt in flight only in the window between the insertion of the
    successor (`insert_retried_scenario`) and the end of the attempt that failed — where the attempt has already sent
    its `Finished` event (program order of `run_scenario`). -/
theorem lts_waiting_and_running_only_while_ending (c : SCfg) (hwf : WF c) (ls : List Label)
    (hc : NClean (acceptN c ls) = true) (e r : Entry)
    (he : e ∈ (acceptN c ls).base.q.serial ++ (acceptN c ls).base.q.conc ++ (acceptN c ls).base.batch)
    (hr : r ∈ (acceptN c ls).base.running) (hk : e.key.scen = r.key.scen) :
    e.key.scen ∈ (acceptN c ls).reins := by
  refine (acceptN_ninv c hwf ls hc).both _ ?_ ?_
  · simp only [Qs, SchedCons.scens, mem_map]; exact ⟨e, he, rfl⟩
  · simp only [Rs, SchedCons.scens, mem_map]; exact ⟨r, hr, hk.symm⟩

open Cuke.SchedSeq in
/-- **Sequential.** The successor of an attempt is never dispatched before that attempt ended: a dispatch accepted
    by the second layer hands out no scenario that still has an attempt in flight. -/
theorem lts_successor_waits_for_end (c : SCfg) (n : NState) (k : Nat) (sl : Slots)
    (hc : NClean (stepN c n (.disp k sl)) = true) :
    ∀ e ∈ n.base.batch, ∀ r ∈ n.base.running, r.key.scen ≠ e.key.scen := by
  intro e he r hr heq
  exact overlaps_false _ _ (by simpa [okN] using (nclean_step hc).2.2.1) e.key.scen (mem_map_of_mem he)
    (mem_map.mpr ⟨r, hr, heq⟩)

open Cuke.SchedSeq in
/-- **Re-run exactly when a successor was inserted.** An `END` accepted by the second layer reports `retried`
    exactly when `insert_retried_scenario` ran for this attempt before (together with `retry_iff_failed_and_budget`
    and the base acceptor's check of the `END` label: exactly when it failed with budget left). -/
theorem lts_retried_iff_successor_inserted (c : SCfg) (n : NState) (id : Nat) (failed retried : Bool) (t : Nat) (e : Entry)
    (hf : n.base.running.find? (fun x => x.id == id) = some e)
    (hc : NClean (stepN c n (.endA id failed retried t)) = true) :
    retried = n.reins.contains e.key.scen := by
  simpa [okN, hf] using (nclean_step hc).2.2.1

theorem rcfg_wf : Cuke.SchedSeq.WF rcfg := .single rfl (by decide)

/-- non-vacuity: the example run with a retried attempt is clean in BOTH layers … -/
example : Cuke.SchedSeq.NClean (acceptN rcfg rlog) = true := by decide +kernel
/-- … in the window between `INS` and `END` (after label 14) scenario 1 has a waiting successor and is recorded … -/
example : (acceptN rcfg (rlog.take 14)).reins = [1] ∧ (acceptN rcfg (rlog.take 15)).reins = [] := by decide +kernel
/-- … and a log in which the successor is dispatched BEFORE the `END` of the failed attempt is flagged (class R) -/
example : ((acceptN rcfg (rlog.take 14 ++ [.get1 3 (some 1) 0 1, .get2 3 (.cont (some 1)) [11] false 1, .disp 1 (.cont (some 0))])).ndis.map (·.cls)) = [.R] := by
  decide +kernel
/-- … as is an `END` that says `retried` although no successor was inserted -/
example : ((acceptN rcfg (rlog.take 13 ++ [.endA 10 true true 2])).ndis.map (·.cls)) = [.R] := by decide +kernel

open Cuke.SchedSeq Cuke.SchedCount in
/-- **Every attempt of a scenario is dispatched with its own retry counter.** In every log clean in both layers the
    (scenario, `current`) pairs of the attempts dispatched so far are pairwise distinct: the waiting entry of a scenario
    always carries a higher `current` than every attempt of it dispatched before. -/
theorem lts_dispatches_distinct (c : SCfg) (hwf : WF c) (ls : List Label) (hc : NClean (acceptN c ls) = true) :
    (dispatched c ls).Nodup :=
  (dispatched_inv c hwf ls hc).1.nd

open Cuke.SchedSeq Cuke.SchedCount Cuke.SchedRetry in
/-- … and every dispatched counter is within the budget the scenario resolved to when its feature was delivered … -/
theorem lts_dispatched_within_budget (c : SCfg) (ls : List Label) (hc : NClean (acceptN c ls) = true)
    (x k N : Nat) (hk : (x, k) ∈ dispatched c ls)
    (hbud : ∀ ft ∈ c.feats, ∀ e0 ∈ newEntries c ft, e0.key.scen = x → ∀ o0, e0.ret = some o0 → o0.retries.left ≤ N) :
    k ≤ N := by
  rcases dispatched_from_batch c ls _ (x, k) hk with h | ⟨pre, suf, hsplit, e, he, hsc⟩
  · cases h
  · subst hsplit
    rw [acceptN, foldl_append] at hc
    have hd := nclean_base (nclean_foldl_mono c suf _ hc)
    rw [show (pre.foldl (stepN c) {}).base = accept c pre from acceptN_base c pre] at hd he
    have hg : GoodRQ (accept c pre) = true := by simp [GoodRQ, hd]
    have hents : e ∈ ents (accept c pre) := by simp only [ents, mem_append]; exact Or.inl (Or.inr he)
    have hx : e.key.scen = x := congrArg Prod.fst hsc
    have hkc : cur e.ret = k := congrArg Prod.snd hsc
    cases hr : e.ret with
    | none => rw [hr] at hkc; simp [cur] at hkc; omega
    | some o =>
      obtain ⟨e0, o0, ⟨ft, hft, hmem⟩, hkey, h0, _, _, hle, _⟩ := lts_attempt_within_budget c pre hg e hents o hr
      have := hbud ft hft e0 hmem (by rw [hkey]; exact hx) o0 h0
      rw [hr] at hkc
      simp only [cur, Option.map_some, Option.getD_some] at hkc
      omega

open Cuke.SchedSeq Cuke.SchedCount in
/-- … hence **a scenario with a budget of `N` is dispatched at most `N + 1` times**, in every clean run of any length. -/
theorem lts_at_most_budget_plus_one_attempts (c : SCfg) (hwf : WF c) (ls : List Label) (hc : NClean (acceptN c ls) = true)
    (x N : Nat)
    (hbud : ∀ ft ∈ c.feats, ∀ e0 ∈ newEntries c ft, e0.key.scen = x → ∀ o0, e0.ret = some o0 → o0.retries.left ≤ N) :
    ((dispatched c ls).filter (fun p => p.1 == x)).length ≤ N + 1 := by
  have hnd := lts_dispatches_distinct c hwf ls hc
  rw [← length_map (f := Prod.snd)]
  apply nodup_bounded_length
  · -- the second components of the pairs with first component `x` are distinct
    refine pairwise_map.mpr ((hnd.filter _).imp_of_mem fun {a b} ha hb hab h2 => hab (Prod.ext ?_ h2))
    rw [beq_iff_eq.mp (mem_filter.mp ha).2, beq_iff_eq.mp (mem_filter.mp hb).2]
  · intro k hk
    simp only [mem_map, mem_filter] at hk
    obtain ⟨p, ⟨hp, hpx⟩, rfl⟩ := hk
    have hpx' : p.1 = x := by simpa using hpx
    have := lts_dispatched_within_budget c ls hc x p.2 N (by rw [← hpx']; exact hp) hbud
    omega

/-- non-vacuity: in the example run scenario 1 (budget 2) is dispatched twice, with `current` 0 and 1 -/
example : Cuke.SchedCount.dispatched rcfg rlog = [(1, 0), (1, 1)] := by decide +kernel

open Cuke.SchedInv in
/-- **Whatever a `features.get` hands out was ready.** In every log replayed without a disagreement, of any length: every
    entry in the batch handed out by a `features.get` (label `GET2`, clock reading `t2`; `t1` = the reading of the `GET1`
    that opened it, `t2` itself when `get(Some(0))` returned early) was ready at `t1` or at `t2` — for an entry retried
    with a delay `d` and stamped `t0` at its re-insertion this means `d < t1 − t0` or `d < t2 − t0` (`delay_respected`):
    no retry is dispatched before its delay has elapsed since the failed attempt ended, whatever the other scenarios do. -/
theorem lts_dispatched_entries_were_ready (c : SCfg) (pre : List Label) (t2 : Nat) (slots : Slots) (got : List Nat)
    (sleep : Bool) (running : Nat)
    (hc : SchedOrd.Clean0 (accept c (pre ++ [.get2 t2 slots got sleep running])) = true) :
    ∀ e ∈ (accept c (pre ++ [.get2 t2 slots got sleep running])).batch,
      e.ready (((accept c pre).lastGet1.map (·.1)).getD t2) = true ∨ e.ready t2 = true := by
  rw [SchedOrd.accept_snoc] at hc ⊢
  -- the implementation took the entries the model hands out, and those are the ready ones
  obtain ⟨-, rfl, hb⟩ := SchedTrip.get2_clean (SchedOrd.clean0_iff.mp hc)
  rw [hb]
  intro e he
  unfold SchedStep.get2Batch at he
  have hr := SchedL.getBatch_all_ready _ _ _ e he
  simp only at hr
  split at hr
  · exact Or.inl hr
  · rename_i hne
    cases h1 : e.ready (((accept c pre).lastGet1.map (·.1)).getD t2) with
    | true => exact Or.inl rfl
    | false =>
      cases h2 : e.ready t2 with
      | true => exact Or.inr rfl
      | false => simp [h1, h2] at hne

/-- non-vacuity: in `rlog` the second `features.get` hands out the retried entry -/
example : SchedOrd.Clean0 (accept rcfg (rlog.take 19)) = true ∧ (accept rcfg (rlog.take 19)).batch.map (·.id) = [11] := by
  decide +kernel

end Cuke.C05
