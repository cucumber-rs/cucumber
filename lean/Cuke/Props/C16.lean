import Cuke.Model.Outline
/-!
# C16 — Scenario outlines expand to one correctly substituted scenario per example row
Model: `Cuke.expandFeature`, `Cuke.expandScenario`, `Cuke.expandRow`, `Cuke.subst` (Cuke/Model/Outline.lean).
-/
namespace Cuke.C16
open Cuke List

theorem no_examples_unchanged (sc : OScen) (h : sc.examples = []) : expandScenario sc = [.ok sc] := by
  simp [expandScenario, h]

/-! ## one scenario per data row, in table order then row order -/

/-- number of data rows of a table that has a header (tables without a header contribute nothing) -/
def dataRows (ex : OExamples) : Nat := ((tableRows ex).map (·.2.length)).getD 0

theorem expand_count (sc : OScen) (h : sc.examples ≠ []) :
    (expandScenario sc).length = (sc.examples.map dataRows).sum := by
  have : sc.examples.isEmpty = false := by simpa using h
  simp only [expandScenario, this, Bool.false_eq_true, if_false, length_flatMap]
  congr 1
  apply map_congr_left
  intro ex _
  unfold dataRows
  cases tableRows ex with
  | none => simp
  | some hv => simp

/-- A table with only a header (or no table at all) contributes no scenario. -/
theorem header_only_contributes_nothing (ex : OExamples) (h : ex.table = none ∨ ∃ hd, ex.table = some [hd]) :
    dataRows ex = 0 := by
  rcases h with h | ⟨hd, h⟩ <;> simp [dataRows, tableRows, h]

/-- The expansion of a scenario is the concatenation, in table order, of its tables' rows in row order. -/
theorem expand_order (sc : OScen) (h : sc.examples ≠ []) :
    expandScenario sc = sc.examples.flatMap (fun ex =>
      match tableRows ex with
      | none => []
      | some (hd, vs) => (List.range vs.length).map (fun i => expandRow sc ex hd i (vs.getD i []))) := by
  have : sc.examples.isEmpty = false := by simpa using h
  unfold expandScenario
  simp only [this, Bool.false_eq_true, if_false]
  rfl

/-- Expanded scenarios take the outline's place, in order (`flat_map` over the scenario list). -/
theorem expand_in_place (pre post : List OScen) (sc : OScen) :
    (pre ++ sc :: post).flatMap expandScenario =
      pre.flatMap expandScenario ++ expandScenario sc ++ post.flatMap expandScenario := by
  simp [flatMap_append]

/-- Row `i` (0-based) of the table at `ex.line`: position `(ex.line + i + 2, ex.col)`; tags are the
    outline's followed by the table's. -/
theorem expand_position_tags (sc sc' : OScen) (ex : OExamples) (hd : List Str) (i : Nat) (vals : List Str)
    (h : expandRow sc ex hd i vals = .ok sc') :
    sc'.line = ex.line + i + 2 ∧ sc'.col = ex.col ∧ sc'.tags = sc.tags ++ ex.tags ∧
    sc'.name = (subst (hd.zip vals) sc.name).1 ∧ sc'.examples = sc.examples := by
  unfold expandRow at h
  simp only at h
  split at h
  · cases h
  · split at h
    · cases h
    · injection h with h
      subst h
      simp

/-- **Distinct positions.** If each table's keyword line lies after the previous table's last data row
    (as in any parsed file), the rows of different tables — and different rows of one table — get
    different lines. -/
theorem positions_distinct (ex₁ ex₂ : OExamples) (i j n₁ : Nat) (hi : i < n₁)
    (hsp : ex₁.line + n₁ + 1 < ex₂.line) : ex₁.line + i + 2 ≠ ex₂.line + j + 2 := by omega

theorem positions_distinct_same_table (ex : OExamples) (i j : Nat) (h : i ≠ j) :
    ex.line + i + 2 ≠ ex.line + j + 2 := by omega

/-- … and they differ from every scenario that stands before the table in the file. -/
theorem position_differs_from_earlier (ex : OExamples) (i line : Nat) (h : line < ex.line) :
    ex.line + i + 2 ≠ line := by omega

inductive Tok where
  | lit (s : Str)
  | ph (name : Str)
  deriving Repr, DecidableEq

def Tok.render : Tok → Str
  | .lit s => s
  | .ph n => '<' :: n ++ ['>']

def render (ts : List Tok) : Str := ts.flatMap Tok.render

/-- well-formed tokens: literals without `<`; placeholder names non-empty, without `>` and whitespace —
    the placeholder syntax the crate recognises -/
def Tok.wf : Tok → Prop
  | .lit s => '<' ∉ s
  | .ph n => n ≠ [] ∧ ∀ c ∈ n, nameChar c = true

/-- what substitution should produce, token by token: (text, last unknown placeholder) -/
def substSpec (row : List (Str × Str)) : List Tok → Str × Option Str
  | [] => ([], none)
  | .lit s :: ts => (s ++ (substSpec row ts).1, (substSpec row ts).2)
  | .ph n :: ts =>
    match lookupCol row n with
    | some v => (v ++ (substSpec row ts).1, (substSpec row ts).2)
    | none => ((substSpec row ts).1, (substSpec row ts).2.or (some n))

theorem substF_lit (row) (s rest : Str) (f : Nat) (hs : '<' ∉ s) :
    substF row (f + s.length) (s ++ rest) = (s ++ (substF row f rest).1, (substF row f rest).2) := by
  induction s with
  | nil => simp
  | cons c cs ih =>
    have hc : (c == '<') = false := by
      simp only [beq_eq_false_iff_ne, ne_eq]; intro h; exact hs (by simp [h])
    have hcs : '<' ∉ cs := fun h => hs (by simp [h])
    have : f + (c :: cs).length = (f + cs.length) + 1 := by simp; omega
    rw [this]
    simp only [cons_append, substF, hc, Bool.false_eq_true, if_false]
    rw [ih hcs]

theorem takeWhile_name (n rest : Str) (h : ∀ c ∈ n, nameChar c = true) :
    (n ++ '>' :: rest).takeWhile nameChar = n ∧ (n ++ '>' :: rest).dropWhile nameChar = '>' :: rest := by
  induction n with
  | nil => simp [nameChar]
  | cons c cs ih =>
    have hc := h c (by simp)
    have := ih (fun x hx => h x (by simp [hx]))
    simp [hc, this]

theorem substF_ph (row) (n rest : Str) (f : Nat) (hne : n ≠ []) (hn : ∀ c ∈ n, nameChar c = true) :
    substF row (f + 1) ('<' :: n ++ '>' :: rest) =
      match lookupCol row n with
      | some v => (v ++ (substF row f rest).1, (substF row f rest).2)
      | none => ((substF row f rest).1, (substF row f rest).2.or (some n)) := by
  obtain ⟨h1, h2⟩ := takeWhile_name n rest hn
  simp only [cons_append, substF, beq_self_eq_true, if_true, h1, h2]
  cases n with
  | nil => exact absurd rfl hne
  | cons c cs => rfl

theorem substF_fuel (row) (s : Str) (f g : Nat) (hf : s.length < f) (hg : s.length < g) :
    substF row f s = substF row g s := by
  induction f generalizing s g with
  | zero => omega
  | succ f ih =>
    cases g with
    | zero => omega
    | succ g =>
      cases s with
      | nil => simp [substF]
      | cons c rest =>
        simp only [substF]
        have hl : rest.length < f := by simp at hf; omega
        have hl' : rest.length < g := by simp at hg; omega
        split
        · split
          · rename_i nm after _ _ after' hnm haf
            have hdl : after'.length < rest.length := by
              have := (List.dropWhile_suffix nameChar (l := rest)).length_le
              rw [haf] at this; simp at this; omega
            rw [ih after' g (by omega) (by omega)]
          · rw [ih rest g hl hl']
        · rw [ih rest g hl hl']

/-- **Substitution theorem.** For a string rendered from well-formed tokens, `subst` yields exactly the
    token-wise result: literals untouched, every placeholder replaced by its row value inserted verbatim
    (no re-scan, no `$` expansion), and the LAST unknown placeholder reported. -/
theorem subst_tokens (row : List (Str × Str)) (ts : List Tok) (h : ∀ t ∈ ts, t.wf) :
    subst row (render ts) = substSpec row ts := by
  suffices ∀ f, (render ts).length < f → substF row f (render ts) = substSpec row ts from
    this _ (by simp)
  induction ts with
  | nil => intro f _; cases f <;> simp [render, substF, substSpec]
  | cons t ts ih =>
    have iht := ih (fun x hx => h x (by simp [hx]))
    have hwf := h t (by simp)
    intro f hf
    have hr : render (t :: ts) = t.render ++ render ts := rfl
    rw [hr] at hf ⊢
    cases t with
    | lit s =>
      simp only [Tok.render] at hf ⊢
      rw [substF_fuel row _ f ((render ts).length + 1 + s.length) hf (by simp; omega)]
      rw [substF_lit row s _ _ hwf, iht _ (by omega)]
      rfl
    | ph n =>
      simp only [Tok.render] at hf ⊢
      have : ('<' :: n ++ ['>']) ++ render ts = '<' :: n ++ '>' :: render ts := by simp
      rw [this] at hf ⊢
      rw [substF_fuel row _ f (((render ts).length + n.length + 2) + 1) hf (by simp; omega)]
      rw [substF_ph row n _ _ hwf.1 hwf.2, iht _ (by omega)]
      simp only [substSpec]

/-- all placeholder names are columns ⇒ no error and the text is the concatenation of the pieces -/
theorem subst_all_known (row : List (Str × Str)) (ts : List Tok)
    (hk : ∀ n, Tok.ph n ∈ ts → (lookupCol row n).isSome = true) :
    (substSpec row ts).2 = none ∧
    (substSpec row ts).1 = ts.flatMap (fun t => match t with | .lit s => s | .ph n => (lookupCol row n).getD []) := by
  induction ts with
  | nil => simp [substSpec]
  | cons t ts ih =>
    have := ih (fun n hn => hk n (by simp [hn]))
    cases t with
    | lit s => simp [substSpec, this]
    | ph n =>
      have hn := hk n (by simp)
      cases hl : lookupCol row n with
      | none => simp [hl] at hn
      | some v => simp [substSpec, hl, this]

/-- an unknown placeholder ⇒ an error naming a placeholder that is indeed unknown and present -/
theorem subst_unknown_error (row : List (Str × Str)) (ts : List Tok) (n : Str)
    (h : (substSpec row ts).2 = some n) : Tok.ph n ∈ ts ∧ lookupCol row n = none := by
  induction ts with
  | nil => simp [substSpec] at h
  | cons t ts ih =>
    have rest : (substSpec row ts).2 = some n → Tok.ph n ∈ t :: ts ∧ lookupCol row n = none :=
      fun h => ⟨mem_cons_of_mem _ (ih h).1, (ih h).2⟩
    cases t with
    | lit s => exact rest h
    | ph m =>
      simp only [substSpec] at h
      cases hl : lookupCol row m with
      | some v => rw [hl] at h; exact rest h
      | none =>
        rw [hl] at h
        rcases Option.or_eq_some_iff.mp h with h | ⟨_, h⟩
        · exact rest h
        · cases h; exact ⟨mem_cons_self, hl⟩

/-- … and conversely: any unknown placeholder present makes the substitution report an error. -/
theorem unknown_is_reported (row : List (Str × Str)) (ts : List Tok) (n : Str)
    (hn : Tok.ph n ∈ ts) (hl : lookupCol row n = none) : (substSpec row ts).2.isSome = true := by
  induction ts with
  | nil => simp at hn
  | cons t ts ih =>
    simp only [mem_cons] at hn
    cases t with
    | lit s =>
      rcases hn with hn | hn
      · cases hn
      · simpa [substSpec] using ih hn
    | ph m =>
      simp only [substSpec]
      rcases hn with hn | hn
      · cases hn
        simp [hl]
      · cases lookupCol row m with
        | some v => exact ih hn
        | none => simp

/-- An error in any string of any row turns the whole feature into a single error. -/
theorem collectR_first_error (e : OErr) (pre post : List (Except OErr OScen))
    (hpre : ∀ x ∈ pre, ∃ s, x = .ok s) : collectR (pre ++ .error e :: post) = .error e := by
  induction pre with
  | nil => rfl
  | cons x xs ih =>
    obtain ⟨s, rfl⟩ := hpre x (by simp)
    simp only [cons_append, collectR]
    rw [ih (fun y hy => hpre y (by simp [hy]))]

theorem error_fails_feature (scs : List OScen) (e : OErr) (pre : List (Except OErr OScen)) (post)
    (hpre : ∀ x ∈ pre, ∃ s, x = .ok s) (h : scs.flatMap expandScenario = pre ++ .error e :: post) :
    expandList scs = .error e := by
  unfold expandList
  rw [h]
  exact collectR_first_error e pre post hpre

/-- a failing rule scenario or top-level scenario list makes `expand_examples` return that error -/
theorem feature_error (f : OFeat) (e : OErr) (rules : List (List OScen))
    (hr : expandRules f.rules = .ok rules) (hs : expandList f.scens = .error e) :
    expandFeature f = .error e := by
  simp [expandFeature, hr, hs]

/-! ## Non-vacuity -/
def exRow : List (Str × Str) := [("a".toList, "1".toList), ("b".toList, "<a>$1".toList)]
def exToks : List Tok := [.lit "x ".toList, .ph "a".toList, .ph "b".toList, .lit " y".toList]
example : (∀ t ∈ exToks, t.wf) := by
  intro t ht
  simp only [exToks, mem_cons, mem_nil_iff, or_false] at ht
  rcases ht with rfl | rfl | rfl | rfl <;> simp [Tok.wf] <;> decide
example : subst exRow (render exToks) = ("x 1<a>$1 y".toList, none) := by decide
example : (subst exRow "p <zz> <a> <qq>".toList).2 = some "qq".toList := by decide

end Cuke.C16
