import Cuke.Lemmas.SchedOrder
import Cuke.Model.AttemptShape
/-!
# C02 — Each scenario attempt emits the canonical, declaration-ordered event sequence
Model: `Cuke.runAttempt` (Cuke/Model/Attempt.lean). The theorems hold for every scenario shape,
every outcome assignment (panics, no-match, ambiguity, World-creation failure) and hook presence.
Interleaving with other scenarios does not enter: an attempt's events are produced by its own
future only (tied to the code by comparing per-attempt projections of interleaved real runs).
-/
namespace Cuke.C02
open Cuke List

/-! ## A declarative description of the canonical sequence -/

/-- Result of the step at position `idx` of the declaration-ordered list, as a function of the
    outcomes only. A World is missing only at position 0 without a before hook. -/
def effRes (sp : AttemptSpec) (idx : Nat) (bg : Bool) (i : Nat) : StepRes :=
  let initFails := (idx == 0 && !sp.hasBefore) && (sp.init != .ok)
  match outOf sp bg i with
  | .noMatch => .skipped
  | .ambiguous => .failed .ambiguous
  | .pass => if initFails then .failed (.panic (initFailPayload sp.init)) else .passed
  | .panic p => if initFails then .failed (.panic (initFailPayload sp.init)) else .failed (.panic p)

/-- Canonical step events: `(Started, Passed)` pairs for the maximal passing prefix, then — if the
    list is not exhausted — `Started, Skipped`, or `Started` with the Failed event deferred. -/
def specSteps (sp : AttemptSpec) : Nat → List (Bool × Nat) → List ScenEv × Stop
  | _, [] => ([], .none)
  | idx, (bg, i) :: rest =>
    match effRes sp idx bg i with
    | .passed =>
      (stepEv bg i .started :: stepEv bg i .passed :: (specSteps sp (idx + 1) rest).1, (specSteps sp (idx + 1) rest).2)
    | .skipped => ([stepEv bg i .started, stepEv bg i .skipped], .skipped)
    | .failed e => ([stepEv bg i .started], .failed (stepEv bg i (.failed e)))
    | .started => ([], .none)

/-- before-hook part: events emitted at once, and the deferred failure if it failed -/
def specBefore (sp : AttemptSpec) : List ScenEv × Stop :=
  if sp.hasBefore then
    match sp.init with
    | .ok =>
      match sp.before with
      | .pass => ([.hook .before .started, .hook .before .passed], .none)
      | .panic p => ([.hook .before .started], .beforeFailed (.hook .before (.failed p)))
    | o => ([.hook .before .started], .beforeFailed (.hook .before (.failed (initFailPayload o))))
  else ([], .none)

def specAfter (sp : AttemptSpec) : List ScenEv :=
  if sp.hasAfter then
    [.hook .after .started, match sp.after with | .pass => .hook .after .passed | .panic p => .hook .after (.failed p)]
  else []

/-- what stops the attempt: the before hook, else the first non-passing step, else nothing -/
def specStop (sp : AttemptSpec) : Stop :=
  match (specBefore sp).2 with
  | .none => (specSteps sp 0 (stepList sp)).2
  | s => s

/-- the canonical sequence -/
def specEvents (sp : AttemptSpec) : List ScenEv :=
  [.started] ++ (specBefore sp).1 ++
    (match (specBefore sp).2 with | .none => (specSteps sp 0 (stepList sp)).1 | _ => []) ++
    (specStop sp).deferred ++ specAfter sp ++ [.finished]

theorem specBefore_cases (sp : AttemptSpec) :
    specBefore sp = ([], .none) ∨ specBefore sp = ([.hook .before .started, .hook .before .passed], .none) ∨
    ∃ p, specBefore sp = ([.hook .before .started], .beforeFailed (.hook .before (.failed p))) := by
  unfold specBefore
  split
  · split
    · split
      · exact .inr (.inl rfl)
      · exact .inr (.inr ⟨_, rfl⟩)
    · exact .inr (.inr ⟨_, rfl⟩)
  · exact .inl rfl

theorem specSteps_stop (sp : AttemptSpec) (idx : Nat) (l : List (Bool × Nat)) :
    (specSteps sp idx l).2 = .none ∨ (specSteps sp idx l).2 = .skipped ∨
    ∃ bg i err, (specSteps sp idx l).2 = .failed (stepEv bg i (.failed err)) := by
  induction l generalizing idx with
  | nil => exact .inl rfl
  | cons s rest ih =>
    obtain ⟨bg, i⟩ := s
    simp only [specSteps]
    cases effRes sp idx bg i with
    | passed => exact ih _
    | skipped => exact .inr (.inl rfl)
    | failed err => exact .inr (.inr ⟨bg, i, err, rfl⟩)
    | started => exact .inl rfl

/-! ## The implementation model produces exactly the canonical sequence -/

theorem runStep_events (sp : AttemptSpec) (wid : Nat) (st : ASt) (bg : Bool) (i : Nat) (idx : Nat)
    (hw : st.world.isSome = (decide (idx > 0) || sp.hasBefore)) :
    (match effRes sp idx bg i with
     | .passed => (runStep sp wid st bg i).1.evs = st.evs ++ [stepEv bg i .started, stepEv bg i .passed] ∧
                  (runStep sp wid st bg i).2 = .none ∧ (runStep sp wid st bg i).1.world.isSome = true
     | .skipped => (runStep sp wid st bg i).1.evs = st.evs ++ [stepEv bg i .started, stepEv bg i .skipped] ∧
                  (runStep sp wid st bg i).2 = .skipped
     | .failed e => (runStep sp wid st bg i).1.evs = st.evs ++ [stepEv bg i .started] ∧
                  (runStep sp wid st bg i).2 = .failed (stepEv bg i (.failed e))
     | .started => False) := by
  unfold effRes runStep
  cases hworld : st.world with
  | some w =>
    -- there is a World: not the first step without a before hook
    have : (decide (idx > 0) || sp.hasBefore) = true := by rw [← hw, hworld]; rfl
    have hnf : ((idx == 0 && !sp.hasBefore) && (sp.init != .ok)) = false := by
      cases hb : sp.hasBefore <;> simp_all
      omega
    cases ho : outOf sp bg i <;> simp [hnf, ensureWorld, callStep]
  | none =>
    -- no World yet: the first step, no before hook; `World::new` decides
    have : (decide (idx > 0) || sp.hasBefore) = false := by rw [← hw, hworld]; rfl
    have h0 : idx = 0 := by simp at this; omega
    have hb : sp.hasBefore = false := by simp at this; exact this.2
    cases ho : outOf sp bg i <;> cases hi : sp.init <;> simp [h0, hb, hi, ensureWorld, callStep]

/-- the `try_fold`: go on after a step that stopped nothing -/
theorem runSteps_cons (sp : AttemptSpec) (wid : Nat) (bg : Bool) (i : Nat) (rest : List (Bool × Nat)) (st : ASt) :
    runSteps sp wid ((bg, i) :: rest) st =
      if (runStep sp wid st bg i).2 = .none then runSteps sp wid rest (runStep sp wid st bg i).1
      else runStep sp wid st bg i := by
  simp only [runSteps]
  generalize runStep sp wid st bg i = r
  obtain ⟨st', stop⟩ := r
  cases stop <;> simp

theorem runSteps_events (sp : AttemptSpec) (wid : Nat) (l : List (Bool × Nat)) (st : ASt) (idx : Nat)
    (hw : st.world.isSome = (decide (idx > 0) || sp.hasBefore)) :
    (runSteps sp wid l st).1.evs = st.evs ++ (specSteps sp idx l).1 ∧
    (runSteps sp wid l st).2 = (specSteps sp idx l).2 := by
  induction l generalizing st idx with
  | nil => simp [runSteps, specSteps]
  | cons s rest ih =>
    obtain ⟨bg, i⟩ := s
    have h := runStep_events sp wid st bg i idx hw
    rw [runSteps_cons]
    simp only [specSteps]
    cases he : effRes sp idx bg i with
    | started => simp [he] at h
    | passed =>
      simp only [he] at h
      obtain ⟨h1, h2, h3⟩ := h
      have := ih (runStep sp wid st bg i).1 (idx + 1) (by simp [h3])
      rw [if_pos h2, this.1, this.2, h1]
      simp
    | _ =>
      simp only [he] at h
      rw [if_neg (by simp [h.2])]
      exact h

theorem runBefore_events (sp : AttemptSpec) (wid : Nat) (st : ASt) (hw : st.world = none) :
    (runBefore sp wid st).1.evs = st.evs ++ (specBefore sp).1 ∧ (runBefore sp wid st).2 = (specBefore sp).2 ∧
    ((specBefore sp).2 = .none → (runBefore sp wid st).1.world.isSome = sp.hasBefore) := by
  unfold runBefore specBefore
  cases hb : sp.hasBefore
  · simp [hw]
  · cases hi : sp.init <;> cases hbf : sp.before <;> simp

/-- **Canonical sequence.** For every spec (shape + outcome assignment), the attempt's events are
    exactly `specEvents`: Started; Before-hook Started and its result; for background steps then own
    steps in declaration order a Started followed by Passed, stopping at the first Skipped / Failed;
    the Failed event (of a step or of the before hook) deferred until after the after hook ran and
    emitted right before the after-hook events; After-hook Started and its result; Finished. -/
theorem runBody_spec (sp : AttemptSpec) (wid : Nat) :
    (runBody sp wid).1.evs = [.started] ++ (specBefore sp).1 ++
      (match (specBefore sp).2 with | .none => (specSteps sp 0 (stepList sp)).1 | _ => []) ∧
    (runBody sp wid).2 = specStop sp := by
  obtain ⟨hb1, hb2, hb3⟩ := runBefore_events sp wid st0 rfl
  unfold runBody specStop
  rw [hb2]
  cases h : (specBefore sp).2 with
  | none =>
    have hs := runSteps_events sp wid (stepList sp) (runBefore sp wid st0).1 0 (by rw [hb3 h]; simp)
    simp only
    rw [hs.1, hs.2, hb1]
    simp [st0]
  | _ => simp only [hb1]; simp [st0]

theorem afterEvents_eq (sp : AttemptSpec) : afterEvents sp = specAfter sp := rfl

theorem runAttempt_canonical (sp : AttemptSpec) (wid : Nat) :
    (runAttempt sp wid).events = specEvents sp := by
  obtain ⟨h1, h2⟩ := runBody_spec sp wid
  simp only [runAttempt, specEvents, h1, h2, afterEvents_eq]

theorem runAttempt_failed (sp : AttemptSpec) (wid : Nat) :
    (runAttempt sp wid).failed = ((specStop sp).isFailure || afterFailed sp) ∧
    (runAttempt sp wid).reason = reasonOf (specStop sp) := by
  simp only [runAttempt, (runBody_spec sp wid).2, and_self]

theorem specPre_forall {P : ScenEv → Prop} (sp : AttemptSpec) (hh : ∀ r, r.isFailed = false → P (.hook .before r))
    (hs : ∀ bg i r, r.isFailed = false → P (stepEv bg i r)) :
    ∀ e ∈ (specBefore sp).1 ++ (match (specBefore sp).2 with | .none => (specSteps sp 0 (stepList sp)).1 | _ => []),
      P e := by
  have hsteps : ∀ idx l, ∀ e ∈ (specSteps sp idx l).1, P e := by
    intro idx l
    induction l generalizing idx with
    | nil => exact forall_mem_nil _
    | cons s rest ih =>
      obtain ⟨bg, i⟩ := s
      simp only [specSteps]
      cases effRes sp idx bg i with
      | started => exact forall_mem_nil _
      | passed => exact forall_mem_cons.mpr ⟨hs _ _ _ rfl, forall_mem_cons.mpr ⟨hs _ _ _ rfl, ih _⟩⟩
      | skipped => exact forall_mem_cons.mpr ⟨hs _ _ _ rfl, forall_mem_singleton.mpr (hs _ _ _ rfl)⟩
      | failed err => exact forall_mem_singleton.mpr (hs _ _ _ rfl)
  have hbefore : ∀ e ∈ (specBefore sp).1, P e := by
    rcases specBefore_cases sp with h | h | ⟨p, h⟩ <;> rw [h]
    · exact forall_mem_nil _
    · exact forall_mem_cons.mpr ⟨hh _ rfl, forall_mem_singleton.mpr (hh _ rfl)⟩
    · exact forall_mem_singleton.mpr (hh _ rfl)
  refine forall_mem_append.mpr ⟨hbefore, ?_⟩
  split
  · exact hsteps 0 _
  · exact forall_mem_nil _

theorem specStop_forall {P : ScenEv → Prop} (sp : AttemptSpec) (hh : ∀ p, P (.hook .before (.failed p)))
    (hs : ∀ bg i err, P (stepEv bg i (.failed err))) : ∀ e ∈ (specStop sp).deferred, P e := by
  have hsteps : ∀ e ∈ (specSteps sp 0 (stepList sp)).2.deferred, P e := by
    rcases specSteps_stop sp 0 (stepList sp) with h | h | ⟨bg, i, err, h⟩ <;> rw [h]
    · exact forall_mem_nil _
    · exact forall_mem_nil _
    · exact forall_mem_singleton.mpr (hs _ _ _)
  unfold specStop
  rcases specBefore_cases sp with h | h | ⟨p, h⟩ <;> rw [h]
  · exact hsteps
  · exact hsteps
  · exact forall_mem_singleton.mpr (hh _)

/-- starts with Started, ends with Finished, and Finished occurs nowhere else: no event after it -/
theorem started_first_finished_last (sp : AttemptSpec) (wid : Nat) :
    ∃ mid, (runAttempt sp wid).events = .started :: mid ++ [.finished] ∧ ScenEv.finished ∉ mid ∧ ScenEv.started ∉ mid := by
  rw [runAttempt_canonical]
  -- everything in between is an event of a hook or of a step
  have hstep : ∀ bg i r, stepEv bg i r ≠ .finished ∧ stepEv bg i r ≠ .started := by
    intro bg i r
    cases bg <;> exact ⟨ScenEv.noConfusion, ScenEv.noConfusion⟩
  have hhook : ∀ t r, ScenEv.hook t r ≠ .finished ∧ ScenEv.hook t r ≠ .started :=
    fun _ _ => ⟨ScenEv.noConfusion, ScenEv.noConfusion⟩
  have hall : ∀ e ∈ (specBefore sp).1 ++ (match (specBefore sp).2 with | .none => (specSteps sp 0 (stepList sp)).1 | _ => []) ++
      (specStop sp).deferred ++ specAfter sp, e ≠ .finished ∧ e ≠ .started := by
    refine forall_mem_append.mpr ⟨forall_mem_append.mpr
      ⟨specPre_forall sp (fun _ _ => hhook _ _) (fun bg i r _ => hstep bg i r),
       specStop_forall sp (fun _ => hhook _ _) (fun bg i _ => hstep bg i _)⟩, ?_⟩
    unfold specAfter
    split
    · exact forall_mem_cons.mpr ⟨hhook _ _, forall_mem_singleton.mpr (by split <;> exact hhook _ _)⟩
    · exact forall_mem_nil _
  exact ⟨_, rfl, fun h => (hall _ h).1 rfl, fun h => (hall _ h).2 rfl⟩

/-- outcome ↦ event kind: no matching definition ⇒ Skipped; several ⇒ Failed(ambiguous);
    panic ⇒ Failed(payload); World cannot be created ⇒ Failed(payload of the creation failure). -/
theorem stepOutcome_event (sp : AttemptSpec) (idx : Nat) (bg : Bool) (i : Nat) :
    (outOf sp bg i = .noMatch → effRes sp idx bg i = .skipped) ∧
    (outOf sp bg i = .ambiguous → effRes sp idx bg i = .failed .ambiguous) ∧
    (∀ p, outOf sp bg i = .panic p → (idx > 0 ∨ sp.hasBefore = true ∨ sp.init = .ok) →
      effRes sp idx bg i = .failed (.panic p)) ∧
    (outOf sp bg i = .pass → (idx > 0 ∨ sp.hasBefore = true ∨ sp.init = .ok) → effRes sp idx bg i = .passed) ∧
    ((outOf sp bg i = .pass ∨ ∃ p, outOf sp bg i = .panic p) → idx = 0 → sp.hasBefore = false → sp.init ≠ .ok →
      effRes sp idx bg i = .failed (.panic (initFailPayload sp.init))) := by
  unfold effRes
  -- a World is there or can be made: `World::new` does not fail the step
  have hworld : (idx > 0 ∨ sp.hasBefore = true ∨ sp.init = .ok) →
      ((idx == 0 && !sp.hasBefore) && (sp.init != .ok)) = false := by
    rintro (hc | hc | hc)
    · have : (idx == 0) = false := by simp; omega
      simp [this]
    · simp [hc]
    · simp [hc]
  refine ⟨fun h => by simp [h], fun h => by simp [h], fun p h hc => by simp [h, hworld hc],
    fun h hc => by simp [h, hworld hc], ?_⟩
  · intro h h0 hb hi
    have hi' : (sp.init != .ok) = true := by simpa using hi
    rcases h with h | ⟨p, h⟩ <;> simp [h, h0, hb, hi']

/-- The failure event (of a step or of the before hook) always precedes the after-hook events, and
    everything before it is free of failures: the sequence is
    `non-failing events ++ [failure]? ++ after-hook events ++ [Finished]`. -/
theorem failure_before_after_hook (sp : AttemptSpec) (wid : Nat) :
    ∃ pre, (runAttempt sp wid).events = pre ++ (specStop sp).deferred ++ specAfter sp ++ [.finished] ∧
      (∀ e ∈ pre, e.isStepFailed = false ∧ e.isHookFailed = false) := by
  rw [runAttempt_canonical]
  refine ⟨_, rfl, ?_⟩
  rw [append_assoc, singleton_append]
  refine forall_mem_cons.mpr ⟨⟨rfl, rfl⟩, specPre_forall sp (fun r hr => ⟨rfl, hr⟩) ?_⟩
  intro bg i r hr
  cases bg <;> exact ⟨by simp [stepEv, ScenEv.isStepFailed, ScenEv.stepRes?, hr], rfl⟩

/-- After-hook events are present iff an after hook is set. -/
theorem after_hook_events (sp : AttemptSpec) :
    (sp.hasAfter = false → specAfter sp = []) ∧
    (sp.hasAfter = true → ∃ r, specAfter sp = [.hook .after .started, .hook .after r] ∧
      (r = .passed ↔ sp.after = .pass)) := by
  unfold specAfter
  constructor
  · intro h; simp [h]
  · intro h; simp only [h, if_true]
    cases sp.after <;> simp

/-- Every event of the attempt carries the same retry counter (the runner wraps all of them with
    the one `retry_num`). -/
def attemptEvents (k : ScenKey) (ret : Option Retries) (sp : AttemptSpec) (wid : Nat) : List Ev :=
  (runAttempt sp wid).events.map (Ev.scen k ret)

theorem runAttempt_retries_const (k : ScenKey) (ret : Option Retries) (sp : AttemptSpec) (wid : Nat) :
    ∀ e ∈ attemptEvents k ret sp wid, ∃ se, e = .scen k ret se := by
  intro e he
  simp only [attemptEvents, mem_map] at he
  obtain ⟨se, _, rfl⟩ := he
  exact ⟨se, rfl⟩


/-! ## The grammar recogniser used as a monitor on real concurrent runs accepts every model attempt -/

theorem effRes_ne_started (sp : AttemptSpec) (idx : Nat) (bg : Bool) (i : Nat) : effRes sp idx bg i ≠ .started := by
  unfold effRes
  cases outOf sp bg i <;> simp <;> split <;> simp

theorem stepResultOf_passed (bg : Bool) (i : Nat) : stepResultOf bg i (stepEv bg i .passed) = some true := by
  simp [stepResultOf]

theorem stepResultOf_skipped (bg : Bool) (i : Nat) : stepResultOf bg i (stepEv bg i .skipped) = some false := by
  cases bg <;> simp [stepResultOf, stepEv]

theorem stepResultOf_failed (bg : Bool) (i : Nat) (e : StepErr) :
    stepResultOf bg i (stepEv bg i (.failed e)) = some false := by
  cases bg <;> simp [stepResultOf, stepEv]

theorem stepsShape_spec (sp : AttemptSpec) (l : List (Bool × Nat)) (idx : Nat) (rest : List ScenEv) :
    stepsShape l ((specSteps sp idx l).1 ++ (specSteps sp idx l).2.deferred ++ rest) = some rest := by
  induction l generalizing idx with
  | nil => simp [specSteps, stepsShape, Stop.deferred]
  | cons s tl ih =>
    obtain ⟨bg, i⟩ := s
    simp only [specSteps]
    cases h : effRes sp idx bg i with
    | started => exact absurd h (effRes_ne_started sp idx bg i)
    | passed =>
      simp only [cons_append, stepsShape, if_true, stepResultOf_passed]
      exact ih (idx + 1)
    | skipped =>
      simp [stepsShape, stepResultOf_skipped, Stop.deferred]
    | failed e =>
      simp [stepsShape, stepResultOf_failed, Stop.deferred]

theorem tailShape_spec (sp : AttemptSpec) : tailShape (specAfter sp ++ [.finished]) = true := by
  unfold specAfter
  cases sp.hasAfter with
  | false => rfl
  | true => cases sp.after <;> rfl

/-- **Every attempt of the model is accepted by the grammar monitor** (so a real attempt the monitor
    rejects is not an attempt of the model). -/
theorem runAttempt_shape (sp : AttemptSpec) (wid : Nat) :
    shapeOk sp.nbg sp.nsteps (runAttempt sp wid).events = true := by
  rw [runAttempt_canonical]
  -- what follows the before-hook events is the step part, its deferred failure and a tail
  have hab : afterBefore sp.nbg sp.nsteps ((specSteps sp 0 (stepList sp)).1 ++
      ((specSteps sp 0 (stepList sp)).2.deferred ++ (specAfter sp ++ [.finished]))) = true := by
    have hsteps := stepsShape_spec sp (stepList sp) 0 (specAfter sp ++ [.finished])
    rw [List.append_assoc] at hsteps
    simp only [afterBefore]
    rw [show declSteps sp.nbg sp.nsteps = stepList sp from rfl, hsteps]
    exact tailShape_spec sp
  unfold specEvents specStop
  rcases specBefore_cases sp with h | h | ⟨p, h⟩ <;> rw [h]
  · simp [shapeOk, hab]
  · simp [shapeOk, hab]
  · simp [shapeOk, Stop.deferred, tailShape_spec]

/-- the monitor is not vacuous: truncated, re-ordered and over-long sequences are rejected -/
example : shapeOk 0 2 [.started, .step 0 .started] = false := by decide
example : shapeOk 0 2 [.started, .step 0 .started, .step 0 .passed, .finished] = false := by decide
example : shapeOk 0 1 [.started, .step 0 .started, .step 0 (.failed .ambiguous), .step 0 .started, .finished] = false := by decide
example : shapeOk 0 1 [.started, .hook .after .started, .step 0 .started, .step 0 .passed, .hook .after .passed, .finished] = false := by decide
example : shapeOk 0 1 [.started, .hook .before .started, .finished] = false := by decide
example : shapeOk 0 1 [.started, .step 0 .started, .step 0 .passed, .finished, .finished] = false := by decide

/-! ## Non-vacuity: a concrete attempt with background, hooks, a panic in the second own step -/
def exSpec : AttemptSpec :=
  { hasBefore := true, hasAfter := true, nbg := 1, nsteps := 3, init := .ok, before := .pass, after := .panic 7,
    bgOut := fun _ => .pass, stepOut := fun i => if i = 1 then .panic 4 else .pass }

example : (runAttempt exSpec 9).events =
    [.started, .hook .before .started, .hook .before .passed, .bg 0 .started, .bg 0 .passed,
     .step 0 .started, .step 0 .passed, .step 1 .started, .step 1 (.failed (.panic 4)),
     .hook .after .started, .hook .after (.failed 7), .finished] := by decide

/-- **Every scenario event that is sent belongs to an attempt in flight** — same scenario, same retry counter,
    dispatched and not yet ended — and is sent while `execute` … is inside its loop with the silent panic hook installed
    (`C10.lts_scenario_event_only_while_silenced`). In every log replayed without a disagreement, of any length: no event
    of an attempt is sent before its dispatch or after its `END`, whatever else interleaves. -/
theorem lts_scenario_event_of_attempt_in_flight (c : SCfg) (pre : List Label) (k : ScenKey) (ret : Option Retries)
    (se : ScenEv) (hc : SchedOrd.Clean0 (accept c (pre ++ [.tx (.scen k ret se)])) = true) :
    ∃ e ∈ (accept c pre).running, e.key = k ∧ e.ret.map (·.retries) = ret := by
  rw [SchedOrd.accept_snoc] at hc
  exact SchedOrd.tx_scen_clean hc

end Cuke.C02
