import Cuke.Model.Attempt
import Cuke.Props.C02
import Cuke.Props.C09
import Cuke.Lemmas.SchedSpin
/-!
# C10 — Panics in user code are contained and reported, never lost or propagated
Attempt level: `runAttempt` is a total function of the outcome assignment in which a panic is an
outcome VALUE (`catch_unwind`); the theorems say what every such assignment yields.
Run level (end of this file): the panic-hook window as an invariant of whole runs of the scheduler LTS
(Lemmas/SchedSpin.lean); "other scenarios unaffected" is the conservation theorem of C04 (`lts_all_created_ended`:
every created attempt ends, whatever fails) and "the run still ends with run-Finished" the exit theorems of C03 / C08.
-/
namespace Cuke.C10
open Cuke List

def isFailureEv (e : ScenEv) : Bool := e.isStepFailed || e.isHookFailed

/-- Whatever panics, the attempt still ends with Finished. -/
theorem finished_after_any_panic (sp : AttemptSpec) (wid : Nat) :
    (runAttempt sp wid).events.getLast? = some .finished := by
  simp [runAttempt]

/-- Whatever panics (before hook, step, World creation), a set after hook is still called — once, last. -/
theorem after_hook_after_any_panic (sp : AttemptSpec) (wid : Nat) (h : sp.hasAfter = true) :
    ∃ body w, (runAttempt sp wid).calls = body ++ [Call.after (runAttempt sp wid).reason w] := by
  obtain ⟨body, w, h1, _⟩ := (C09.after_hook_once_with_reason sp wid).2 h
  exact ⟨body, w, h1⟩

theorem specSteps_deferred_failure (sp : AttemptSpec) (idx : Nat) (l : List (Bool × Nat)) :
    (∀ e ∈ (C02.specSteps sp idx l).2.deferred, isFailureEv e = true) ∧
    ((C02.specSteps sp idx l).2.isFailure = true ↔ (C02.specSteps sp idx l).2.deferred ≠ []) := by
  rcases C02.specSteps_stop sp idx l with h | h | ⟨bg, i, err, h⟩ <;> rw [h]
  · simp [Stop.deferred, Stop.isFailure]
  · simp [Stop.deferred, Stop.isFailure]
  · cases bg <;> simp [Stop.deferred, Stop.isFailure, isFailureEv, stepEv, ScenEv.isStepFailed, ScenEv.stepRes?, StepRes.isFailed]

theorem specBefore_stop_cases (sp : AttemptSpec) :
    (C02.specBefore sp).2 = .none ∨ ∃ p, (C02.specBefore sp).2 = .beforeFailed (.hook .before (.failed p)) := by
  rcases C02.specBefore_cases sp with h | h | ⟨p, h⟩ <;> rw [h]
  · exact .inl rfl
  · exact .inl rfl
  · exact .inr ⟨p, rfl⟩

theorem specStop_deferred_failure (sp : AttemptSpec) :
    (∀ e ∈ (C02.specStop sp).deferred, isFailureEv e = true) ∧
    ((C02.specStop sp).isFailure = true ↔ (C02.specStop sp).deferred ≠ []) := by
  unfold C02.specStop
  rcases specBefore_stop_cases sp with h | ⟨p, h⟩
  · rw [h]; exact specSteps_deferred_failure sp 0 _
  · rw [h]; simp [Stop.deferred, Stop.isFailure, isFailureEv, ScenEv.isHookFailed, HookRes.isFailed]

/-- **Never lost.** The attempt is reported failed iff its event sequence contains a Failed event
    (of a step, of the before hook, or of the after hook). -/
theorem failed_iff_failure_event (sp : AttemptSpec) (wid : Nat) :
    (runAttempt sp wid).failed = true ↔ ∃ e ∈ (runAttempt sp wid).events, isFailureEv e = true := by
  obtain ⟨pre, hev, hpre⟩ := C02.failure_before_after_hook sp wid
  obtain ⟨hd1, hd2⟩ := specStop_deferred_failure sp
  rw [(C02.runAttempt_failed sp wid).1, hev]
  constructor
  · intro h
    simp only [Bool.or_eq_true] at h
    rcases h with h | h
    · obtain ⟨e, he⟩ := exists_mem_of_ne_nil _ (hd2.mp h)
      exact ⟨e, by simp [he], hd1 e he⟩
    · simp only [afterFailed, Bool.and_eq_true, bne_iff_ne, ne_eq] at h
      cases ha : sp.after with
      | pass => exact absurd ha h.2
      | panic p =>
        refine ⟨.hook .after (.failed p), ?_, by simp [isFailureEv, ScenEv.isHookFailed, HookRes.isFailed]⟩
        simp [C02.specAfter, h.1, ha]
  · rintro ⟨e, he, hf⟩
    simp only [mem_append, mem_singleton] at he
    rcases he with ((he | he) | he) | he
    · have := hpre e he
      simp [isFailureEv, this.1, this.2] at hf
    · simp only [Bool.or_eq_true]; left
      exact hd2.mpr (ne_nil_of_mem he)
    · simp only [Bool.or_eq_true]; right
      unfold C02.specAfter at he
      cases hh : sp.hasAfter with
      | false => simp [hh] at he
      | true =>
        cases ha : sp.after with
        | pass =>
          simp [hh, ha] at he
          rcases he with rfl | rfl <;> simp [isFailureEv, ScenEv.isHookFailed, ScenEv.isStepFailed, ScenEv.stepRes?, HookRes.isFailed] at hf
        | panic p => simp [afterFailed, hh, ha]
    · subst he; simp [isFailureEv, ScenEv.isHookFailed, ScenEv.isStepFailed, ScenEv.stepRes?] at hf

/-- A panicking step becomes that step's Failed event carrying the payload (any payload value `p`). -/
theorem step_panic_reported (sp : AttemptSpec) (idx : Nat) (bg : Bool) (i : Nat) (p : Nat)
    (h : outOf sp bg i = .panic p) (hw : idx > 0 ∨ sp.hasBefore = true ∨ sp.init = .ok) :
    C02.effRes sp idx bg i = .failed (.panic p) :=
  (C02.stepOutcome_event sp idx bg i).2.2.1 p h hw

/-- A panicking before hook becomes Hook::Failed(Before, payload); steps are not run; the attempt fails. -/
theorem before_panic_reported (sp : AttemptSpec) (wid : Nat) (p : Nat)
    (hb : sp.hasBefore = true) (hi : sp.init = .ok) (hp : sp.before = .panic p) :
    ScenEv.hook .before (.failed p) ∈ (runAttempt sp wid).events ∧ (runAttempt sp wid).failed = true ∧
    (runAttempt sp wid).reason = .beforeHookFailed := by
  have hs : (C02.specBefore sp).2 = .beforeFailed (.hook .before (.failed p)) := by
    simp [C02.specBefore, hb, hi, hp]
  have hstop : C02.specStop sp = .beforeFailed (.hook .before (.failed p)) := by simp [C02.specStop, hs]
  refine ⟨?_, ?_, ?_⟩
  · rw [C02.runAttempt_canonical]; simp [C02.specEvents, hstop, Stop.deferred]
  · rw [(C02.runAttempt_failed sp wid).1, hstop]; rfl
  · rw [(C02.runAttempt_failed sp wid).2, hstop]; rfl

/-- A failing `World::new` (error or panic) in the before-hook path is reported the same way. -/
theorem world_init_failure_reported (sp : AttemptSpec) (wid : Nat)
    (hb : sp.hasBefore = true) (hi : sp.init ≠ .ok) :
    ScenEv.hook .before (.failed (initFailPayload sp.init)) ∈ (runAttempt sp wid).events ∧
    (runAttempt sp wid).failed = true := by
  have hs : (C02.specBefore sp).2 = .beforeFailed (.hook .before (.failed (initFailPayload sp.init))) := by
    cases h : sp.init <;> simp_all [C02.specBefore]
  have hstop : C02.specStop sp = .beforeFailed (.hook .before (.failed (initFailPayload sp.init))) := by
    simp [C02.specStop, hs]
  refine ⟨?_, ?_⟩
  · rw [C02.runAttempt_canonical]; simp [C02.specEvents, hstop, Stop.deferred]
  · rw [(C02.runAttempt_failed sp wid).1, hstop]; rfl

/-- A panicking after hook becomes Hook::Failed(After, payload) and fails the attempt. -/
theorem after_panic_reported (sp : AttemptSpec) (wid : Nat) (p : Nat)
    (ha : sp.hasAfter = true) (hp : sp.after = .panic p) :
    ScenEv.hook .after (.failed p) ∈ (runAttempt sp wid).events ∧ (runAttempt sp wid).failed = true := by
  refine ⟨?_, ?_⟩
  · rw [C02.runAttempt_canonical]; simp [C02.specEvents, C02.specAfter, ha, hp]
  · simp [runAttempt, afterFailed, ha, hp]

/-! ## Non-vacuity: both hooks and a step panic at once -/
def exAll : AttemptSpec :=
  { hasBefore := true, hasAfter := true, nbg := 0, nsteps := 2, init := .ok, before := .panic 1, after := .panic 2,
    bgOut := fun _ => .pass, stepOut := fun _ => .panic 3 }

example : (runAttempt exAll 1).events =
    [.started, .hook .before .started, .hook .before (.failed 1), .hook .after .started, .hook .after (.failed 2), .finished] ∧
    (runAttempt exAll 1).failed = true := by decide

open Cuke.SchedSpin Cuke.SchedOrd

/-- **Silenced while anything is in flight.** In every log replayed without a disagreement, at every moment at which
    an attempt is dispatched and not yet ended, or a batch has been handed out by `features.get`, the process panic
    hook is the silent one `execute` installed at its start (`HOOK take` seen, `HOOK restore` not yet). -/
theorem lts_panic_hook_silenced_while_in_flight (c : SCfg) (ls : List Label) (hc : Clean0 (accept c ls) = true)
    (h : (accept c ls).running ≠ [] ∨ (accept c ls).batch ≠ []) : (accept c ls).hookTaken = true :=
  hinv_in_flight (hinv_accept c ls hc) h

/-- **Every scenario event is sent inside the window**: when an event of a scenario attempt is sent — in particular a
    `Failed` event carrying a panic payload — the silent hook is installed (the panic that caused it printed nothing). -/
theorem lts_scenario_event_only_while_silenced (c : SCfg) (pre : List Label) (k : ScenKey) (ret : Option Retries)
    (se : ScenEv) (hc : Clean0 (accept c (pre ++ [.tx (.scen k ret se)])) = true) :
    (accept c pre).hookTaken = true := by
  rw [accept_snoc] at hc
  obtain ⟨e, he, -⟩ := tx_scen_clean hc
  exact lts_panic_hook_silenced_while_in_flight c pre (clean0_step_mono c _ _ hc) (Or.inl (ne_nil_of_mem he))

/-- **Restored when `execute` returns**: once the log shows `EXIT`, the hook saved at the start is back in place, and
    nothing is in flight. -/
theorem lts_panic_hook_restored_at_exit (c : SCfg) (ls : List Label) (hc : Clean0 (accept c ls) = true)
    (hx : (accept c ls).phase = .exited) :
    (accept c ls).hookTaken = false ∧ (accept c ls).running = [] :=
  hinv_exited (hinv_accept c ls hc) hx

/-! non-vacuity: a complete clean run of one scenario whose first attempt FAILS and is retried: silenced while the
    failing attempt is in flight, restored at the end -/
def hcfg : SCfg :=
  { builderConc := some (some 2), cliConc := none, builderFF := false, cliFF := false, builderRetries := none,
    cliRetries := none, builderAfter := none, cliAfter := none, customWhich := false, durTable := [],
    feats := [⟨0, [], [⟨1, ["retry(2)"], 1⟩], []⟩] }
def hk1 : ScenKey := ⟨0, none, 1⟩
def hlog : List Label :=
  [.hookTake, .tx .started, .pOk 0, .ins 0 [] [⟨10, 1, some ⟨0, 2⟩, none⟩], .pEnd, .tx (.parsingFinished 1 0 1 1 0), .pFinish,
   .get1 1 (some 2) 0 1, .get2 1 (.cont (some 2)) [10] false 0, .tx (.featStarted 0), .disp 1 (.cont (some 1)),
   .tx (.scen hk1 (some ⟨0, 2⟩) .started), .tx (.scen hk1 (some ⟨0, 2⟩) .finished),
   .ins 2 [] [⟨11, 1, some ⟨1, 1⟩, none⟩], .endA 10 true true 2,
   .cons true, .notif 10 true true,
   .get1 3 (some 2) 0 1, .get2 3 (.cont (some 2)) [11] false 0, .disp 1 (.cont (some 1)),
   .tx (.scen hk1 (some ⟨1, 1⟩) .started), .tx (.scen hk1 (some ⟨1, 1⟩) .finished), .endA 11 false false 4,
   .cons true, .notif 11 false false, .tx (.featFinished 0),
   .get1 5 (some 2) 0 0, .get2 5 (.cont (some 2)) [] false 0, .idle true false, .tx .finished, .hookRestore, .exit]

example :
    Clean0 (accept hcfg hlog) = true ∧ (accept hcfg hlog).phase = .exited ∧ (accept hcfg hlog).hookTaken = false ∧
    (accept hcfg (hlog.take 12)).running.length = 1 ∧ (accept hcfg (hlog.take 12)).hookTaken = true := by
  decide +kernel

/-- a log in which `execute` returns without putting the hook back is rejected (class I) -/
example : (accept hcfg (hlog.take 30 ++ [.exit])).dis.any (fun d => d.cls == .I) = true := by
  decide +kernel

end Cuke.C10
