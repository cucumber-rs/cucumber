import Cuke.Model.Tracing
import Cuke.Lemmas.TraceFrame
/-!
# C20 — Tracing logs are attributed to the scenario and step that emitted them
Model: `Cuke.Tr` — the collector protocol and one `forward_logs` turn.
The theorems are about the protocol; the tie to the code is direct (family `trace.coll`: operation sequences
through a real `Collector`, reached by the cfg hook `VerifCollector` in `src/tracing.rs`, against this model turn
by turn) and end-to-end (the Lean monitor `mon.c20` evaluates the property on the event stream of real runs with
the real subscriber).
-/
namespace Cuke.C20
open Cuke Cuke.Tr List

theorem notify_logs (c : Coll) : (notify c).logs = c.logs ∧ (notify c).out = c.out ∧ (notify c).scenarios = c.scenarios := by
  unfold notify
  cases c.closes <;> simp

/-- what a turn forwards for the logs queued at its start, with the registrations of that moment -/
def expected (c : Coll) : List Ev := c.logs.flatMap (logEventsS c.scenarios)

/-- **A turn drains the log channel completely**: every queued log is forwarded exactly once, in FIFO
    order, and nothing is left in the channel when `forward_logs` yields. -/
theorem turnF_drains (fuel : Nat) (c : Coll) (hf : c.logs.length < fuel) :
    (turnF fuel c).logs = [] ∧ (turnF fuel c).out = c.out ++ expected c ∧ (turnF fuel c).scenarios = c.scenarios := by
  induction fuel generalizing c with
  | zero => omega
  | succ f ih =>
    obtain ⟨h1, h2, h3⟩ := notify_logs c
    cases hl : c.logs with
    | nil =>
      have hn : (notify c).logs = [] := by rw [h1, hl]
      simp [turnF, emittedLogs, hn, h2, h3, expected, hl]
    | cons l rest =>
      have hn : (notify c).logs = l :: rest := by rw [h1, hl]
      have hlen : rest.length < f := by rw [hl] at hf; simp at hf; omega
      let c1 : Coll := { notify c with logs := rest, out := (notify c).out ++ logEvents (notify c) l }
      have hstep : turnF (f + 1) c = turnF f c1 := by simp [turnF, emittedLogs, hn, c1]
      obtain ⟨a, b, d⟩ := ih c1 (by simpa [c1] using hlen)
      rw [hstep]
      refine ⟨a, ?_, by rw [d]; simpa [c1] using h3⟩
      rw [b]
      simp only [c1, expected, hl, flatMap_cons, h2, h3, logEvents, append_assoc]

theorem turn_drains (c : Coll) :
    (turn c).logs = [] ∧ (turn c).out = c.out ++ expected c ∧ (turn c).scenarios = c.scenarios :=
  turnF_drains _ c (by omega)

/-- **Exactly once, to its own scenario, never to another**: a log whose scenario id is registered
    becomes exactly one Log event, of that scenario attempt. -/
theorem log_attributed (c : Coll) (sid msg : Nat) (k : ScenKey) (ret : Option Retries)
    (h : c.scenarios.find? (fun s => s.1 == sid) = some (sid, k, ret)) :
    logEvents c (some sid, msg) = [Ev.scen k ret (.log msg)] := by
  simp [logEvents, logEventsS, h]

/-- **None lost**: after a turn, all logs emitted before it have been forwarded (in order). -/
theorem none_lost_after_turn (c : Coll) : (turn c).logs = [] := (turn_drains c).1

/-- callbacks are only ever fired inside `notify`, i.e. inside a `forward_logs` turn; the other
    actions leave `fired` untouched — so a step's result event (sent after its callback fired) comes
    after the turn that fired it, hence after every log emitted before the span closed -/
theorem fired_only_in_turn (c : Coll) (sid : Option Nat) (msg id cb : Nat) (k : ScenKey) (ret) :
    (emitLog c sid msg).fired = c.fired ∧ (closeSpan c id).fired = c.fired ∧ (waitFor c id cb).fired = c.fired ∧
    (startScenario c id k ret).fired = c.fired ∧ (finishScenario c id).fired = c.fired := ⟨rfl, rfl, rfl, rfl, rfl⟩

/-- a waiter is not fired before its span's close has been received -/
theorem no_fire_without_close (c : Coll) (id cb : Nat)
    (hc : c.closes = []) (hse : c.spanEvents = []) (hw : c.waits = [(id, cb)]) :
    (notify c).fired = c.fired := by
  simp [notify, hc, hse, hw, addWaiter]

/-- … and it is fired by the first `notify` that has both the close and the waiter -/
theorem fires_when_both (c : Coll) (id cb : Nat)
    (hc : c.closes = [id]) (hse : c.spanEvents = []) (hw : c.waits = [(id, cb)]) :
    (notify c).fired = c.fired ++ [cb] := by
  simp [notify, hc, hse, hw, addWaiter, setClosed]

/-! ## Non-vacuity: two scenarios logging concurrently, one turn -/
def c0 : Coll :=
  emitLog (emitLog (emitLog (startScenario (startScenario Coll.init 7 ⟨1, none, 70⟩ none) 8 ⟨1, none, 80⟩ (some ⟨1, 0⟩))
    (some 8) 100) (some 7) 101) (some 8) 102

example : (turn c0).out =
    [.scen ⟨1, none, 80⟩ (some ⟨1, 0⟩) (.log 100), .scen ⟨1, none, 70⟩ none (.log 101), .scen ⟨1, none, 80⟩ (some ⟨1, 0⟩) (.log 102)] ∧
    (turn c0).logs = [] := by decide


/-! ## The framing between writer side and reader side (byte-level contract)

Model: `Cuke.Frame` (Cuke/Model/TraceFrame.lean) — `frame` is what `AppendScenarioMsg::format_event` writes,
`unframe` is `CollectorWriter::write`. Tied to the code directly: the real `write` runs on generated buffers
(family `trace.frame`) and must return and send exactly what `unframe` says. -/

open Cuke.Frame in
/-- **Round trip, any number of frames in one buffer.** If every frame's id is one `u64` can print and the
    terminator occurs in no frame before its own terminator, `write` returns `Ok` and sends exactly the
    `(id, text)` pairs that were framed, in order — none lost, none merged, none attributed to another
    scenario. -/
theorem frames_roundtrip (frames : List (Option Str × Str))
    (hid : ∀ f ∈ frames, idOk f.1 = true) (hc : ∀ f ∈ frames, Clean f.1 f.2 = true) :
    unframe (frames.flatMap (fun f => frame f.1 f.2)) = (frames.map (fun f => (f.1.map decVal, f.2)), true) := by
  unfold unframe
  have hflat : frames.flatMap (fun f => frame f.1 f.2) =
      (frames.map (fun f => f.2 ++ suffixOf f.1)).flatMap (fun b => b ++ END) := by
    simp [flatMap_map, frame]
  rw [hflat, splitTerminator_frames END (by decide)]
  · exact unframeAll_bodies frames hid
  · intro b hb
    simp only [mem_map] at hb
    obtain ⟨f, hf, rfl⟩ := hb
    have := hc f hf
    simpa [Clean] using this

open Cuke.Frame in
/-- **… in particular for every text that does not contain the terminator.** No other text is ever lost or
    mis-attributed: not one ending in `_`, `__`, `__unknown`, digits, a proper prefix of the terminator, or
    containing `__unknown` / `__<digits>` anywhere (the defect behind the repaired finding F-C20a). -/
theorem frames_roundtrip_of_texts (frames : List (Option Str × Str))
    (hid : ∀ f ∈ frames, idOk f.1 = true) (ht : ∀ f ∈ frames, contains END f.2 = false) :
    unframe (frames.flatMap (fun f => frame f.1 f.2)) = (frames.map (fun f => (f.1.map decVal, f.2)), true) :=
  frames_roundtrip frames hid (fun f hf => clean_of_text f.1 f.2 (hid f hf) (ht f hf))

open Cuke.Frame in
/-- The full statement — every text comes back — is FALSE of the code (finding F-C20b): a text containing the
    terminator is cut there, the first piece has no separator, `write` fails and the log is lost. -/
theorem framing_full_false :
    ¬ ∀ (ids : Option Str) (text : Str), idOk ids = true → unframe (frame ids text) = ([(ids.map decVal, text)], true) := by
  intro h
  have := h none ['k', ' ', '_', '_', 'c', 'u', 'c', 'u', 'm', 'b', 'e', 'r', '_', '_', 's', 'c', 'e', 'n', 'a', 'r', 'i', 'o', ' ', 'z'] rfl
  revert this
  decide

/-! non-vacuity of the round trip: two frames in one buffer, one with an id, one without; texts ending in `_`,
    containing `__unknown` and `__7` -/
example : Cuke.Frame.unframe
    (Cuke.Frame.frame (some ['4', '2']) ['a', '_', '_', 'u', 'n', 'k', 'n', 'o', 'w', 'n', ' ', '_'] ++
     Cuke.Frame.frame none ['x', '_', '_', '7']) =
    ([(some 42, ['a', '_', '_', 'u', 'n', 'k', 'n', 'o', 'w', 'n', ' ', '_']), (none, ['x', '_', '_', '7'])], true) := by decide
example : Cuke.Frame.Clean (some ['4', '2']) ['a', '_', '_', 'u', 'n', 'k', 'n', 'o', 'w', 'n', ' ', '_'] = true ∧
    Cuke.Frame.idOk (some ['4', '2']) = true := by decide
example : String.ofList Cuke.Frame.END = "__cucumber__scenario" ∧ String.ofList Cuke.Frame.SEP = "__" ∧
    String.ofList Cuke.Frame.NOID = "__unknown" := by decide

end Cuke.C20
