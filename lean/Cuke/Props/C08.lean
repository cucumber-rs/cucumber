import Cuke.Props.C05
import Cuke.Lemmas.Sched
import Cuke.Model.SchedLts
import Cuke.Props.C06
import Cuke.Lemmas.SchedLts
import Cuke.Lemmas.SchedExit
import Cuke.Lemmas.SchedTrip
/-!
# C08 — Fail-fast stops dispatching after the first final failure, yet closes cleanly
Model: `Cuke.tripFailFast`, `Cuke.Slots` (`brk`), `Cuke.getBatch`, `Cuke.isFinished`, `Cuke.finishAll`
and the `notif` / `brk` / `get` / `idle` labels of the scheduler LTS (classes FF, B, K).
-/
namespace Cuke.C08
open Cuke List

/-- fail-fast is on iff the CLI flag or the builder flag is set -/
theorem failfast_resolution (c : SCfg) : c.failFast = true ↔ c.cliFF = true ∨ c.builderFF = true := by
  simp [SCfg.failFast]

/-- The switch trips exactly for a failed attempt that is NOT going to be retried, and only with
    fail-fast on: a failed attempt that will be retried does not trigger it. -/
theorem trip_iff (ff failed retried : Bool) :
    tripFailFast ff failed retried = true ↔ ff = true ∧ failed = true ∧ retried = false := by
  simp [tripFailFast, and_assoc]

theorem retried_failure_no_trip (ff failed : Bool) : tripFailFast ff failed true = false := by
  simp [tripFailFast]

/-- Once tripped, `get` is asked for zero scenarios … -/
theorem brk_asks_zero : Slots.brk.ask = some 0 := rfl

/-- … and then returns nothing, whatever is queued and ready: **no further attempt is dispatched**. -/
theorem no_dispatch_when_tripped (ready : Entry → Bool) (q : Queues) :
    (getBatch ready Slots.brk.ask q).1 = [] ∧ (getBatch ready Slots.brk.ask q).2.1 = q := by
  simp [getBatch, Slots.ask]

/-- The tripped state is absorbing for the slot bookkeeping. -/
theorem brk_absorbing (n : Nat) : Slots.brk.onDispatch n = .brk ∧ Slots.brk.onConsume = .brk := ⟨rfl, rfl⟩

/-- After the trip the loop ends as soon as the parser is done and nothing is in flight, ignoring
    whatever is still queued. -/
theorem finished_ignores_queue_when_tripped (q : Queues) : isFinished true true q = true := by
  simp [isFinished]

/-- Without a trip the loop only ends when the queues are empty (and the parser is done). -/
theorem finished_needs_empty_queue (done : Bool) (q : Queues) :
    isFinished done false q = true ↔ done = true ∧ q.isEmpty = true := by
  simp [isFinished]

/-- At exit every still-open rule and feature bracket gets its Finished event (rules first). -/
theorem exit_closes_all (b : Brackets) :
    (finishAll b).1 = b.rules.map (fun e => Ev.ruleFinished e.1.1 e.1.2) ∧
    (finishAll b).2 = b.feats.map (fun e => Ev.featFinished e.1) := ⟨rfl, rfl⟩

/-- The LTS: a drained final failure under fail-fast arms the trip … -/
theorem notif_arms_trip (c : SCfg) (s : SState) (id : Nat) (k : ScenKey) (rest : List (Nat × ScenKey × Bool × Bool))
    (hn : s.notifs = (id, k, true, false) :: rest) (hff : c.failFast = true) :
    (stepL c s (.notif id true false)).tripDue = true := by
  rw [SchedStep.stepL_eq]
  simp [SchedStep.stepD, hn, tripFailFast, hff]

/-- … and `brk` switches the slots to the absorbing state. -/
theorem brk_sets_slots (c : SCfg) (s : SState) : (stepL c s .brk).slots = .brk := by
  rw [SchedStep.stepL_eq]; rfl

/-- After the first parser error no later item is ingested under fail-fast: the LTS flags any. -/
theorem no_ingest_after_error (c : SCfg) (s : SState) (hff : c.failFast = true) :
    (stepL c s .pErr).parserStopped = true := by
  rw [SchedStep.stepL_eq]; exact hff

theorem ingest_after_stop_flagged (c : SCfg) (s : SState) (f : Nat) (h : s.parserStopped = true) :
    ∃ d ∈ (stepL c s (.pOk f)).dis, d.cls = .FF := by
  have : (stepL c s (.pOk f)).dis.any (fun d => d.cls == .FF) = true :=
    (SchedStep.any_cls_step (· == .FF) c s (.pOk f)).trans (by simp [SchedStep.fails, SchedStep.miss, h])
  simpa using this

/-! ## Non-vacuity -/
example : tripFailFast true true false = true := rfl
example : (getBatch (fun _ => true) Slots.brk.ask ⟨[], [⟨1, ⟨0, none, 1⟩, false, none, none⟩]⟩).1 = [] := by decide

open Cuke.SchedInv in
/-- **No dispatch while fail-fast is tripped, in every accepted run**: if the log is accepted without a
    K / I / Q disagreement, a dispatch that happens while the slot counter is `Break` dispatches nothing
    (`get(Some(0))` returned an empty batch) — whatever is queued, ready or retried at that moment. -/
theorem lts_no_dispatch_while_tripped (c : SCfg) (pre suf : List Label) (n : Nat) (sl : Slots)
    (hg : Good (accept c (pre ++ Label.disp n sl :: suf)) = true)
    (hbrk : (accept c pre).slots = .brk) : n = 0 := by
  have hgd : Good (stepL c (accept c pre) (.disp n sl)) = true := by
    simp only [accept, foldl_append, foldl_cons] at hg
    exact Cuke.C06.good_foldl_mono c suf _ hg
  rw [good_step, Bool.and_eq_true] at hgd
  obtain ⟨hgp, hf⟩ := hgd
  simp [SchedStep.fails, kiq, -all_eq_true] at hf
  have hb := (Cuke.C06.lts_slots_invariant c pre hgp).2.2 hf.1 0 (by rw [hbrk]; rfl)
  omega

open Cuke.SchedBr Cuke.BrL in
/-- **Every started feature and rule still gets its Finished** — also when fail-fast cut the run short: in every run
    replayed without a class-B disagreement, once the bookkeeping is empty (`finish_all_rules_and_features` ran at the
    exit) and nothing is owed any more, the stream that was sent has, per feature and per rule, as many Finished as
    Started events. (The bracket ledger of C03; nothing in it depends on whether fail-fast tripped.) -/
theorem lts_failfast_closes_brackets (c : SCfg) (ls : List Label) (hg : GoodB (accept c ls) = true)
    (hb : (accept c ls).br = Brackets.empty) (he : expEvents (accept c ls).expect = []) :
    (∀ f, cnt (.featStarted f) (accept c ls).out = cnt (.featFinished f) (accept c ls).out) ∧
    (∀ f r, cnt (.ruleStarted f r) (accept c ls).out = cnt (.ruleFinished f r) (accept c ls).out) :=
  accept_balanced c ls hg hb he

open Cuke.SchedOrd Cuke.SchedExit in
/-- **… and nothing of a scenario follows the exit** (tripped or not): the closing brackets and run-Finished are the
    end of the stream's scenario-related part. -/
theorem lts_failfast_exit_is_final (c : SCfg) (pre post : List Label) (sl : Bool)
    (hc : Clean0 (accept c (pre ++ [.idle true sl] ++ post)) = true) :
    ∀ k ret se, Label.tx (.scen k ret se) ∉ post := exit_is_final c pre post sl hc

/-- a label that reports a FINAL failure (a failed attempt that is not retried) or a parser error -/
def isFailureLabel : Label → Bool
  | .pErr => true
  | .notif _ failed retried => failed && !retried
  | _ => false

def withFF (c : SCfg) (cli builder : Bool) : SCfg := { c with cliFF := cli, builderFF := builder }

theorem stepL_ff_irrelevant (c : SCfg) (x y : Bool) (s : SState) (l : Label) (h : isFailureLabel l = false) :
    stepL (withFF c x y) s l = stepL c s l := by
  cases l with
  | pErr => simp [isFailureLabel] at h
  | notif id f r =>
    simp only [isFailureLabel] at h
    have h1 : ∀ ff, tripFailFast ff f r = false := by intro ff; simp [tripFailFast]; cases ff <;> simp_all
    simp only [stepL, h1]
    rfl
  | _ => rfl

/-- **If nothing fails, a fail-fast run is a normal run.** For every log without a final failure and without a parser
    error (failed attempts that are retried are allowed), the scheduler model makes exactly the same decisions with
    fail-fast on as with fail-fast off: the same state after every label — the same batches handed out, the same
    events owed and sent, the same disagreements (none, if the log is a run of the real code). So the runs the code
    can make with `--fail-fast` when nothing fails are exactly the runs it can make without it. -/
theorem lts_failfast_transparent_if_nothing_fails (c : SCfg) (x y : Bool) (ls : List Label)
    (h : ∀ l ∈ ls, isFailureLabel l = false) : accept (withFF c x y) ls = accept c ls := by
  unfold accept
  generalize ({} : SState) = s0
  induction ls generalizing s0 with
  | nil => rfl
  | cons l rest ih =>
    simp only [foldl_cons]
    rw [stepL_ff_irrelevant c x y s0 l (h l mem_cons_self)]
    exact ih (fun l' hl' => h l' (mem_cons_of_mem _ hl')) _

/-- non-vacuity: the retry example run (a failed attempt that IS retried, then a pass) holds no failure label, is
    replayed without a disagreement, and with fail-fast switched on it is replayed to the very same state -/
example : (∀ l ∈ Cuke.C05.rlog, isFailureLabel l = false) ∧
    (finalChecks (accept (withFF Cuke.C05.rcfg true false) Cuke.C05.rlog)).dis.isEmpty = true := by decide +kernel

/-- **Fail-fast stops dispatching, whole runs.** Under fail-fast, in every log replayed without a disagreement — of any
    length, whatever the parser, the completions and the retries do —, once an attempt has ended as a FINAL failure
    (`END failed, not retried`, taken while `execute` awaits its scenarios, as every `END` of a real run is: monitor
    `endsWhileSelecting`), every later dispatch dispatches NOTHING: the attempts that may still begin are those
    dispatched together with the failing one. (The acceptor demands that every completion notification is drained
    before the next `features.get`, and that the trip follows the notification of the final failure at once.) -/
theorem lts_no_dispatch_after_final_failure (c : SCfg) (hff : c.failFast = true) (pre post : List Label) (id t n : Nat)
    (sl : Slots)
    (hc : SchedOrd.Clean0 (accept c (pre ++ [.endA id true false t] ++ post ++ [.disp n sl])) = true)
    (hsel : (accept c pre).phase = .selecting) : n = 0 := by
  rw [append_assoc, SchedOrd.accept_append] at hc
  have ha := SchedTrip.ainv_after_final_end c pre id t (SchedOrd.clean0_foldl_mono c _ _ hc) hsel
  exact (SchedTrip.ainv_run c hff _ _ ha hc).2 n sl (by simp)

/-- **Tripped is absorbing over whole runs**: once the slot counter is `Break` (after the loop has started), it is `Break`
    after every continuation replayed without a disagreement — so `features.get` is asked for `Some(0)` for the rest of
    the run and `lts_no_dispatch_while_tripped` applies to every later dispatch. -/
theorem lts_tripped_stays_tripped (c : SCfg) (pre post : List Label) (hc : SchedOrd.Clean0 (accept c (pre ++ post)) = true)
    (hp : (accept c pre).phase ≠ .init) (hb : (accept c pre).slots = .brk) : (accept c (pre ++ post)).slots = .brk := by
  rw [SchedOrd.accept_append] at hc ⊢
  exact (SchedTrip.tripped_run c post _ ⟨hp, hb⟩ hc).2

/-- the monitor's predicate is the theorem's hypothesis: where `endsWhileSelecting` holds, every `END` was taken in
    phase `selecting` -/
theorem endsWhileSelecting_spec (c : SCfg) (pre post : List Label) (id t : Nat) (f r : Bool)
    (h : SMon.endsWhileSelecting c (pre ++ [Label.endA id f r t] ++ post) = true) : (accept c pre).phase = .selecting := by
  have fst : ∀ (ls : List Label) (a : SState × Bool), (ls.foldl (SMon.ewsStep c) a).1 = ls.foldl (stepL c) a.1 := by
    intro ls
    induction ls with
    | nil => intro a; rfl
    | cons l rest ih => intro a; simp only [List.foldl_cons]; rw [ih]; rfl
  have sticky : ∀ (ls : List Label) (s : SState), (ls.foldl (SMon.ewsStep c) (s, false)).2 = false := by
    intro ls
    induction ls with
    | nil => intro s; rfl
    | cons l rest ih =>
      intro s
      simp only [List.foldl_cons]
      have : SMon.ewsStep c (s, false) l = (stepL c s l, false) := by cases l <;> simp [SMon.ewsStep]
      rw [this]; exact ih _
  unfold SMon.endsWhileSelecting at h
  simp only [List.foldl_append, List.foldl_cons, List.foldl_nil] at h
  cases hb : ((accept c pre).phase == Phase.selecting) with
  | true => simpa using hb
  | false =>
    exfalso
    have h1 : (pre.foldl (SMon.ewsStep c) (({} : SState), true)).1 = accept c pre := fst pre _
    have h2 : SMon.ewsStep c (pre.foldl (SMon.ewsStep c) (({} : SState), true)) (Label.endA id f r t) =
        (stepL c (accept c pre) (Label.endA id f r t), false) := by
      simp only [SMon.ewsStep, h1, hb, Bool.and_false]
    rw [h2, sticky] at h
    cases h

/-! non-vacuity: limit 2, fail-fast, three scenarios; two are dispatched together, the first fails finally while the
    second is in flight; the completion is consumed, the notification drained, the trip follows; the next dispatch
    dispatches nothing although scenario 3 is still queued — and a log that dispatched it is rejected -/
def fcfg : SCfg :=
  { builderConc := some (some 2), cliConc := none, builderFF := true, cliFF := false, builderRetries := none,
    cliRetries := none, builderAfter := none, cliAfter := none, customWhich := false, durTable := [],
    feats := [⟨0, [], [⟨1, [], 1⟩, ⟨2, [], 1⟩, ⟨3, [], 1⟩], []⟩] }
def fk (i : Nat) : ScenKey := ⟨0, none, i⟩
def fpre : List Label :=
  [.hookTake, .tx .started, .pOk 0, .ins 0 [] [⟨10, 1, none, none⟩, ⟨11, 2, none, none⟩, ⟨12, 3, none, none⟩], .pEnd,
   .tx (.parsingFinished 1 0 3 3 0), .pFinish,
   .get1 1 (some 2) 0 3, .get2 1 (.cont (some 2)) [10, 11] false 0, .tx (.featStarted 0), .disp 2 (.cont (some 0)),
   .tx (.scen (fk 1) none .started), .tx (.scen (fk 2) none .started), .tx (.scen (fk 1) none .finished)]
def fpost : List Label := [.cons true, .notif 10 true false, .brk, .get2 3 .brk [] false 1]

example : fcfg.failFast = true ∧ (accept fcfg fpre).phase = .selecting ∧
    SchedOrd.Clean0 (accept fcfg (fpre ++ [.endA 10 true false 2] ++ fpost ++ [.disp 0 .brk])) = true ∧
    SchedOrd.Clean0 (accept fcfg (fpre ++ [.endA 10 true false 2] ++ fpost ++ [.disp 1 .brk])) = false ∧
    SMon.endsWhileSelecting fcfg (fpre ++ [.endA 10 true false 2] ++ fpost ++ [.disp 0 .brk]) = true := by
  decide +kernel

end Cuke.C08
