import Cuke.Model.Writers
import Cuke.Props.C02
import Cuke.Lemmas.SummarizeGuard
/-!
# C12 — Summary counters equal what the event stream contains
Model: `Cuke.Summ` (Cuke/Model/Summarize.lean) inside `Cuke.handle (.summ w)`.
-/
namespace Cuke.C12
open Cuke List Cuke.C02

/-- one `handle_event` of `Summarize` on its own state (counting, then the output transition) -/
def step (cat : Catalog) (s : Summ) (e : Ev) : Summ := ((s.pre cat e).post).1

def summAfter (cat : Catalog) (evs : List Ev) : Summ := evs.foldl (step cat) {}

theorem summ_handle (cat) (w : W) (sm : Summ) (s : St w) (e : Ev) :
    handle cat (.summ w) (sm, s) e =
      if ((sm.pre cat e).post).2 then
        ((((sm.pre cat e).post).1, (handle cat w s e).1),
          (handle cat w s e).2 ++ writeW w ((sm.pre cat e).post).1.summaryVal)
      else ((((sm.pre cat e).post).1, (handle cat w s e).1), (handle cat w s e).2) := rfl

/-- The `Summarize` node of a pipeline evolves by `step`, whatever it wraps. -/
theorem summ_state (cat) (w : W) (evs : List Ev) :
    (runW cat (.summ w) evs).1.1 = summAfter cat evs := by
  -- the counting state is an image of the pipeline's fold: one `handle` moves it by `step`
  refine (foldl_hom (fun a : St (.summ w) × List Out => a.1.1) ?_).symm
  intro a e
  obtain ⟨⟨sm, s⟩, acc⟩ := a
  show step cat sm e = (handle cat (.summ w) (sm, s) e).1.1
  rw [summ_handle]
  split <;> rfl

/-- a Failed step event that the summary counts as *failed*: no retry left, or not-found -/
def isFinalStepFailure : Ev → Bool
  | .scen _ ret (.bg _ (.failed err)) => !isRetriedFailure ret err
  | .scen _ ret (.step _ (.failed err)) => !isRetriedFailure ret err
  | _ => false

/-- a Failed step event counted as *retried*: `left > 0` and not not-found -/
def isRetriedStepFailure : Ev → Bool
  | .scen _ ret (.bg _ (.failed err)) => isRetriedFailure ret err
  | .scen _ ret (.step _ (.failed err)) => isRetriedFailure ret err
  | _ => false

def isFeatStarted : Ev → Bool
  | .featStarted _ => true
  | _ => false

def isRuleStarted : Ev → Bool
  | .ruleStarted _ _ => true
  | _ => false

/-- every Failed step event is exactly one of the two classes -/
theorem failure_classes (e : Ev) :
    e.isStepFailed = (isFinalStepFailure e || isRetriedStepFailure e) ∧
    ¬(isFinalStepFailure e = true ∧ isRetriedStepFailure e = true) := by
  have failed : ∀ x : Bool, true = (!x || x) ∧ ¬((!x) = true ∧ x = true) := by decide
  cases e with
  | scen k ret se =>
    cases se with
    | bg i r =>
      cases r with
      | failed err => exact failed _
      | _ => exact ⟨rfl, fun h => Bool.false_ne_true h.1⟩
    | step i r =>
      cases r with
      | failed err => exact failed _
      | _ => exact ⟨rfl, fun h => Bool.false_ne_true h.1⟩
    | _ => exact ⟨rfl, fun h => Bool.false_ne_true h.1⟩
  | _ => exact ⟨rfl, fun h => Bool.false_ne_true h.1⟩

/-! ## the eight stream-determined counters -/

structure CVec where
  stepsPassed : Nat
  stepsSkipped : Nat
  stepsFailed : Nat
  stepsRetried : Nat
  parsingErrors : Nat
  failedHooks : Nat
  features : Nat
  rules : Nat
  deriving DecidableEq, Repr

def vec (s : Summ) : CVec :=
  ⟨s.steps.passed, s.steps.skipped, s.steps.failed, s.steps.retried, s.parsingErrors, s.failedHooks, s.features, s.rules⟩

def b2n (b : Bool) : Nat := if b then 1 else 0

def evVec (e : Ev) : CVec :=
  ⟨b2n e.isStepPassed, b2n e.isStepSkipped, b2n (isFinalStepFailure e), b2n (isRetriedStepFailure e),
   b2n e.isParseErr, b2n e.isHookFailed, b2n (isFeatStarted e), b2n (isRuleStarted e)⟩

def CVec.add (a b : CVec) : CVec :=
  ⟨a.1 + b.1, a.2 + b.2, a.3 + b.3, a.4 + b.4, a.5 + b.5, a.6 + b.6, a.7 + b.7, a.8 + b.8⟩

def countVec (evs : List Ev) : CVec :=
  ⟨evs.countP Ev.isStepPassed, evs.countP Ev.isStepSkipped, evs.countP isFinalStepFailure,
   evs.countP isRetriedStepFailure, evs.countP Ev.isParseErr, evs.countP Ev.isHookFailed,
   evs.countP isFeatStarted, evs.countP isRuleStarted⟩

theorem handleStep_vec (s : Summ) (k : ScenKey) (isLast : Bool) (r : StepRes) (ret) :
    vec (s.handleStep k isLast r ret) =
      (vec s).add ⟨b2n r.isPassed, b2n r.isSkipped,
        (match r with | .failed err => b2n (!isRetriedFailure ret err) | _ => 0),
        (match r with | .failed err => b2n (isRetriedFailure ret err) | _ => 0), 0, 0, 0, 0⟩ := by
  cases r with
  | passed => simp only [Summ.handleStep]; split <;> rfl
  | failed err =>
    simp only [Summ.handleStep]
    cases isRetriedFailure ret err
    · rfl
    · simp only [if_true]
      split <;> rfl
  | _ => rfl

theorem handleHookFailed_vec (s : Summ) (k : ScenKey) :
    vec (s.handleHookFailed k) = (vec s).add ⟨0, 0, 0, 0, 0, 1, 0, 0⟩ := by
  simp only [Summ.handleHookFailed]
  split <;> rfl

theorem handleScenFinished_vec (s : Summ) (k : ScenKey) : vec (s.handleScenFinished k) = vec s := by
  simp only [Summ.handleScenFinished]
  split <;> rfl

theorem add_zero_vec (v : CVec) : v.add ⟨0, 0, 0, 0, 0, 0, 0, 0⟩ = v := rfl

theorem evVec_stepRes (k : ScenKey) (ret : Option Retries) (bg : Bool) (i : Nat) (r : StepRes) :
    evVec (.scen k ret (if bg then .bg i r else .step i r)) =
      ⟨b2n r.isPassed, b2n r.isSkipped,
        (match r with | .failed err => b2n (!isRetriedFailure ret err) | _ => 0),
        (match r with | .failed err => b2n (isRetriedFailure ret err) | _ => 0), 0, 0, 0, 0⟩ := by
  cases bg <;> cases r <;> rfl

theorem count_vec (cat) (s : Summ) (e : Ev) : vec (s.count cat e) = (vec s).add (evVec e) := by
  cases e with
  | scen k ret se =>
    simp only [Summ.count, Summ.handleScenario]
    cases se with
    | finished => rw [handleScenFinished_vec]; exact (add_zero_vec _).symm
    | hook t r =>
      cases r with
      | failed p => exact handleHookFailed_vec s k
      | _ => exact (add_zero_vec _).symm
    | bg i r => rw [handleStep_vec]; exact congrArg _ (evVec_stepRes k ret true i r).symm
    | step i r => rw [handleStep_vec]; exact congrArg _ (evVec_stepRes k ret false i r).symm
    | _ => exact (add_zero_vec _).symm
  | _ => rfl

theorem countVec_cons (e : Ev) (es : List Ev) : countVec (e :: es) = (evVec e).add (countVec es) := by
  simp only [countVec, evVec, CVec.add, countP_cons, b2n]
  congr 1 <;> omega

theorem CVec.add_assoc (a b c : CVec) : (a.add b).add c = a.add (b.add c) := by
  simp [CVec.add, Nat.add_assoc]

theorem handleStep_state (s : Summ) (k) (l) (r) (ret) : (s.handleStep k l r ret).state = s.state := by
  cases r with
  | passed => simp only [Summ.handleStep]; split <;> rfl
  | failed err =>
    simp only [Summ.handleStep]
    split
    · split <;> rfl
    · rfl
  | _ => rfl

theorem handleHookFailed_state (s : Summ) (k) : (s.handleHookFailed k).state = s.state := by
  simp only [Summ.handleHookFailed]; split <;> rfl

theorem handleScenFinished_state (s : Summ) (k) : (s.handleScenFinished k).state = s.state := by
  simp only [Summ.handleScenFinished]; split <;> rfl

theorem count_state (cat) (s : Summ) (e : Ev) (h : e.isFinished = false) : (s.count cat e).state = s.state := by
  cases e with
  | finished => simp [Ev.isFinished] at h
  | scen k ret se =>
    simp only [Summ.count, Summ.handleScenario]
    cases se with
    | hook t r =>
      cases r with
      | failed p => exact handleHookFailed_state s k
      | _ => rfl
    | bg i r => exact handleStep_state ..
    | step i r => exact handleStep_state ..
    | finished => exact handleScenFinished_state ..
    | _ => rfl
  | _ => rfl

theorem in_progress_fold (cat) (s : Summ) (evs : List Ev) (hs : s.state = .inProgress)
    (h : ∀ e ∈ evs, e.isFinished = false) :
    (evs.foldl (step cat) s).state = .inProgress ∧
    vec (evs.foldl (step cat) s) = (vec s).add (countVec evs) := by
  induction evs generalizing s with
  | nil => simp [hs, countVec, CVec.add, vec]
  | cons e es ih =>
    have he := h e (by simp)
    have h1 : (s.count cat e).state = .inProgress := by rw [count_state cat s e he, hs]
    have hst : step cat s e = s.count cat e := by
      simp [step, Summ.pre, Summ.isInProgress, hs, Summ.post, Summ.needsOutput, h1]
    obtain ⟨i1, i2⟩ := ih (step cat s e) (hst ▸ h1) (fun x hx => h x (by simp [hx]))
    refine ⟨by simpa using i1, ?_⟩
    simp only [foldl_cons]
    rw [i2, hst, count_vec, countVec_cons, CVec.add_assoc]

theorem finished_step (cat) (s : Summ) (hs : s.state = .inProgress) :
    (step cat s .finished).state = .finishedOutput ∧ vec (step cat s .finished) = vec s ∧
    (step cat s .finished).scenarios = s.scenarios := by
  simp [step, Summ.pre, Summ.isInProgress, hs, Summ.count, Summ.post, Summ.needsOutput, vec]

/-- **Frozen after run-Finished**: once finished, no event changes any counter (events replayed by an
    outer `Repeat` change nothing). -/
theorem frozen_after_finished (cat) (s : Summ) (hs : s.state = .finishedOutput) (evs : List Ev) :
    evs.foldl (step cat) s = s := by
  induction evs with
  | nil => rfl
  | cons e es ih =>
    have : step cat s e = s := by
      simp [step, Summ.pre, Summ.isInProgress, hs, Summ.post, Summ.needsOutput]
    simp [this, ih]

/-- **Counters = stream.** For ANY stream `pre ++ finished :: post` whose first run-Finished is the
    one shown: the eight counters are the numbers of the corresponding events of `pre`. -/
theorem counters_eq_stream (cat) (pre post : List Ev) (h : ∀ e ∈ pre, e.isFinished = false) :
    vec (summAfter cat (pre ++ Ev.finished :: post)) = countVec pre := by
  unfold summAfter
  rw [foldl_append, foldl_cons]
  obtain ⟨h1, h2⟩ := in_progress_fold cat {} pre rfl h
  obtain ⟨f1, f2, _⟩ := finished_step cat _ h1
  rw [frozen_after_finished cat _ f1, f2, h2]
  simp [vec, CVec.add]

/-- The same while the run is still in progress (no run-Finished yet). -/
theorem counters_eq_stream_in_progress (cat) (pre : List Ev) (h : ∀ e ∈ pre, e.isFinished = false) :
    vec (summAfter cat pre) = countVec pre := by
  obtain ⟨_, h2⟩ := in_progress_fold cat {} pre rfl h
  unfold summAfter; rw [h2]; simp [vec, CVec.add]

/-- The `Stats` getters a user reads are these counters (background steps included). -/
theorem stats_getters (cat) (w : W) (pre post : List Ev) (h : ∀ e ∈ pre, e.isFinished = false) :
    let st := statsOf (.summ w) (runW cat (.summ w) (pre ++ Ev.finished :: post)).1
    st.passed = pre.countP Ev.isStepPassed ∧ st.skipped = pre.countP Ev.isStepSkipped ∧
    st.failed = pre.countP isFinalStepFailure ∧ st.retried = pre.countP isRetriedStepFailure ∧
    st.parsingErrors = pre.countP Ev.isParseErr ∧ st.hookErrors = pre.countP Ev.isHookFailed := by
  have hv := counters_eq_stream cat pre post h
  have hs := summ_state cat w (pre ++ Ev.finished :: post)
  simp only [statsOf]
  rw [hs]
  simp only [vec, countVec, CVec.mk.injEq] at hv
  obtain ⟨a, b, c, d, e, f, _, _⟩ := hv
  exact ⟨a, b, c, d, e, f⟩

/-! ## the summary is written exactly once, right after the inner writer got run-Finished -/

def isSummaryWrite : Out → Bool
  | .write _ (.summary ..) => true
  | _ => false

/-- Per event: the summary is written iff this event is the first run-Finished, and then it comes
    after everything the inner writer emitted for that event. -/
theorem summary_write_point (cat) (w : W) (sm : Summ) (s : St w) (e : Ev) :
    (handle cat (.summ w) (sm, s) e).2 =
      (handle cat w s e).2 ++
        (if sm.state = .inProgress ∧ e.isFinished = true then writeW w (step cat sm e).summaryVal else
         if sm.state = .finishedNotOutput then writeW w (step cat sm e).summaryVal else []) := by
  -- the summary is written iff the counting half leaves the state at "finished, not output"
  have hout : (handle cat (.summ w) (sm, s) e).2 = (handle cat w s e).2 ++
      if (sm.pre cat e).state = .finishedNotOutput then writeW w (step cat sm e).summaryVal else [] := by
    simp only [summ_handle, step, Summ.post, Summ.needsOutput, beq_iff_eq]
    split <;> simp [*]
  rw [hout]
  cases hs : sm.state with
  | inProgress =>
    have hpre : sm.pre cat e = sm.count cat e := by simp [Summ.pre, Summ.isInProgress, hs]
    rw [hpre]
    cases hf : e.isFinished with
    | true =>
      cases e <;> cases hf
      simp [Summ.count]
    | false => simp [count_state cat sm e hf, hs]
  | _ => simp [Summ.pre, Summ.isInProgress, hs]

/-! ## Scenario classification: proved counter-examples to the full statement (known findings) -/

def kx : ScenKey := ⟨0, none, 1⟩
def catx (n : Nat) : Catalog := { featTags := fun _ => [], ruleTags := fun _ _ => [], scenTags := fun _ => [], nsteps := fun _ => n }
def r01 : Option Retries := some ⟨0, 1⟩
def r10 : Option Retries := some ⟨1, 0⟩

/-- F-C12a: after-hook fails in attempt 0 (which is retried), attempt 1 passes everything. -/
def streamA : List Ev :=
  [.started, .featStarted 0,
   .scen kx r01 .started, .scen kx r01 (.step 0 .started), .scen kx r01 (.step 0 .passed),
   .scen kx r01 (.hook .after .started), .scen kx r01 (.hook .after (.failed 0)), .scen kx r01 .finished,
   .scen kx r10 .started, .scen kx r10 (.step 0 .started), .scen kx r10 (.step 0 .passed),
   .scen kx r10 (.hook .after .started), .scen kx r10 (.hook .after .passed), .scen kx r10 .finished,
   .featFinished 0, .finished]

/-- one scenario, last attempt passed — yet it is counted as failed AND as passed -/
theorem C12_class_full_false_a :
    (summAfter (catx 1) streamA).scenarios = { passed := 1, skipped := 0, failed := 1, retried := 0 } := by
  decide +kernel

/-- F-C12b: attempt 0 fails in a step (retried), attempt 1 fails in the before hook, no retry left. -/
def streamB : List Ev :=
  [.started, .featStarted 0,
   .scen kx r01 .started, .scen kx r01 (.hook .before .started), .scen kx r01 (.hook .before .passed),
   .scen kx r01 (.step 0 .started), .scen kx r01 (.step 0 (.failed (.panic 0))), .scen kx r01 .finished,
   .scen kx r10 .started, .scen kx r10 (.hook .before .started), .scen kx r10 (.hook .before (.failed 0)),
   .scen kx r10 .finished, .featFinished 0, .finished]

/-- the scenario's last attempt failed — it is counted in none of passed / skipped / failed -/
theorem C12_class_full_false_b :
    (summAfter (catx 1) streamB).scenarios = { passed := 0, skipped := 0, failed := 0, retried := 1 } := by
  decide +kernel

/-- F-C12c: scenario without own steps; background step fails in attempt 0, passes in attempt 1. -/
def streamC : List Ev :=
  [.started, .featStarted 0,
   .scen kx r01 .started, .scen kx r01 (.bg 0 .started), .scen kx r01 (.bg 0 (.failed (.panic 0))), .scen kx r01 .finished,
   .scen kx r10 .started, .scen kx r10 (.bg 0 .started), .scen kx r10 (.bg 0 .passed), .scen kx r10 .finished,
   .featFinished 0, .finished]

theorem C12_class_full_false_c :
    (summAfter (catx 0) streamC).scenarios = { passed := 0, skipped := 0, failed := 0, retried := 1 } := by
  decide +kernel

/-! ## Non-vacuity of the counter theorems -/
example : vec (summAfter (catx 1) streamB) = countVec (streamB.dropLast) := by decide +kernel
example : countVec (streamB.dropLast) = ⟨0, 0, 0, 1, 0, 1, 1, 0⟩ := by decide +kernel


/-! ## Scenario classification: the proved part (attempts with no retry left) -/

/-- what `Summarize` remembers and counts about ONE scenario: its indicator and the scenario counters -/
def obs (k : ScenKey) (s : Summ) : Option Indicator × Stats := (s.handled.get k, s.scenarios)

/-- the effect of one scenario event on `obs`, as a function of `obs` alone -/
def obsStep (ret : Option Retries) (nsteps : Nat) (o : Option Indicator × Stats) : ScenEv → Option Indicator × Stats
  | .started => o
  | .log _ => o
  | .hook _ r =>
    if r.isFailed then
      match o.1 with
      | some .failed => o
      | some .retried => o
      | some .skipped => (o.1, { o.2 with skipped := o.2.skipped - 1, failed := o.2.failed + 1 })
      | none => (some .failed, { o.2 with failed := o.2.failed + 1 })
    else o
  | .bg _ r => stepObs false r
  | .step i r => stepObs (decide (i + 1 = nsteps)) r
  | .finished =>
    match o.1 with
    | some .retried => o
    | some _ => (none, o.2)
    | none => (none, { o.2 with passed := o.2.passed + 1 })
where
  stepObs (isLast : Bool) : StepRes → Option Indicator × Stats
    | .started => o
    | .passed => if isLast then (none, o.2) else o
    | .skipped => (some .skipped, { o.2 with skipped := o.2.skipped + 1 })
    | .failed err =>
      if isRetriedFailure ret err then
        (some .retried, if o.1.isNone then { o.2 with retried := o.2.retried + 1 } else o.2)
      else (some .failed, { o.2 with failed := o.2.failed + 1 })

theorem get_insert_self (h : Handled) (k : ScenKey) (i : Indicator) : (h.insert k i).get k = some i := by
  rw [SummG.get_insert, if_pos rfl]

theorem get_remove_self (h : Handled) (k : ScenKey) : (h.remove k).get k = none := by
  rw [SummG.get_remove, if_pos rfl]

theorem obs_handle (cat : Catalog) (k : ScenKey) (ret : Option Retries) (s : Summ) (e : ScenEv) :
    obs k (s.handleScenario cat k ret e) = obsStep ret (cat.nsteps k) (obs k s) e := by
  have hstep : ∀ (isLast : Bool) (r : StepRes),
      obs k (s.handleStep k isLast r ret) = obsStep.stepObs ret (obs k s) isLast r := by
    intro isLast r
    cases r with
    | started => rfl
    | passed =>
      cases isLast <;> simp [Summ.handleStep, obs, obsStep.stepObs, get_remove_self]
    | skipped => simp [Summ.handleStep, obs, obsStep.stepObs, get_insert_self]
    | failed err =>
      cases hr : isRetriedFailure ret err with
      | false => simp [Summ.handleStep, hr, obs, obsStep.stepObs, get_insert_self]
      | true =>
        simp only [Summ.handleStep, hr, if_true, obs, obsStep.stepObs]
        by_cases hn : (s.handled.get k).isNone = true <;> simp [hn, get_insert_self]
  cases e with
  | started => rfl
  | log m => rfl
  | finished =>
    simp only [Summ.handleScenario, Summ.handleScenFinished, obs, obsStep]
    cases hg : s.handled.get k with
    | none => simp [hg]
    | some i => cases i <;> simp [hg, get_remove_self]
  | hook t r =>
    cases r with
    | failed p =>
      simp only [Summ.handleScenario, HookRes.isFailed, if_true, Summ.handleHookFailed, obs, obsStep]
      cases hg : s.handled.get k with
      | none => simp [get_insert_self]
      | some i => cases i <;> simp [hg]
    | _ => rfl
  | bg i r => simpa [Summ.handleScenario, obsStep] using hstep false r
  | step i r => simpa [Summ.handleScenario, obsStep] using hstep (decide (i + 1 = cat.nsteps k)) r


def feedScen (cat : Catalog) (k : ScenKey) (ret : Option Retries) (s : Summ) (evs : List ScenEv) : Summ :=
  evs.foldl (fun s e => s.handleScenario cat k ret e) s

theorem obs_feed (cat : Catalog) (k : ScenKey) (ret : Option Retries) (s : Summ) (evs : List ScenEv) :
    obs k (feedScen cat k ret s evs) = evs.foldl (obsStep ret (cat.nsteps k)) (obs k s) := by
  induction evs generalizing s with
  | nil => rfl
  | cons e es ih => simp only [feedScen, foldl_cons] at ih ⊢; rw [ih, obs_handle]

/-- a step event of either kind: only an own step can be the last one -/
theorem obsStep_stepEv (ret : Option Retries) (n : Nat) (o : Option Indicator × Stats) (bg : Bool) (i : Nat) (r : StepRes) :
    obsStep ret n o (stepEv bg i r) = obsStep.stepObs ret o (!bg && decide (i + 1 = n)) r := by
  cases bg <;> rfl

theorem fold_specSteps (ret : Option Retries) (n : Nat) (sp : AttemptSpec) (hn : n = sp.nsteps)
    (hret : ∀ err, isRetriedFailure ret err = false) (sc : Stats) (l : List (Bool × Nat)) (idx : Nat) :
    (specSteps sp idx l).1.foldl (obsStep ret n) (none, sc) =
      match (specSteps sp idx l).2 with
      | .skipped => (some .skipped, { sc with skipped := sc.skipped + 1 })
      | _ => (none, sc) := by
  induction l generalizing idx with
  | nil => simp [specSteps]
  | cons s rest ih =>
    obtain ⟨bg, i⟩ := s
    simp only [specSteps]
    cases h : effRes sp idx bg i with
    | started => exact absurd h (effRes_ne_started sp idx bg i)
    | passed =>
      simp only [foldl_cons, obsStep_stepEv, obsStep.stepObs, ite_self]
      exact ih (idx + 1)
    | _ => simp [obsStep_stepEv, obsStep.stepObs]

/-- the class the property assigns to a finished attempt -/
def attemptClass (sp : AttemptSpec) (wid : Nat) (sc : Stats) : Stats :=
  if (runAttempt sp wid).failed then { sc with failed := sc.failed + 1 }
  else if (runAttempt sp wid).reason = .stepSkipped then { sc with skipped := sc.skipped + 1 }
  else { sc with passed := sc.passed + 1 }

theorem afterFold (ret : Option Retries) (n : Nat) (sp : AttemptSpec) (o : Option Indicator × Stats) :
    (specAfter sp).foldl (obsStep ret n) o =
      if afterFailed sp then obsStep ret n o (.hook .after (.failed 0)) else o := by
  unfold specAfter afterFailed
  cases sp.hasAfter with
  | false => rfl
  | true => cases sp.after <;> rfl

theorem specSteps_failed_shape (sp : AttemptSpec) (l : List (Bool × Nat)) (idx : Nat) (ev : ScenEv)
    (h : (specSteps sp idx l).2 = .failed ev) : ∃ bg i e, ev = stepEv bg i (.failed e) := by
  rcases specSteps_stop sp idx l with h' | h' | ⟨bg, i, e, h'⟩ <;> rw [h'] at h
  · cases h
  · cases h
  · exact ⟨bg, i, e, (Stop.failed.inj h).symm⟩

theorem specSteps_not_beforeFailed (sp : AttemptSpec) (l : List (Bool × Nat)) (idx : Nat) (ev : ScenEv) :
    (specSteps sp idx l).2 ≠ .beforeFailed ev := by
  rcases specSteps_stop sp idx l with h | h | ⟨bg, i, e, h⟩ <;> rw [h] <;> nofun

/-- non-vacuity: the C02 example attempt (before hook, background, a panicking second step, a failing after
    hook) without retries is counted once, as failed -/
example : obs kx (feedScen (catx 3) kx none {} (runAttempt exSpec 9).events) =
    (none, { passed := 0, skipped := 0, failed := 1, retried := 0 }) := by decide +kernel


/-! ## Scenario classification with retries: the proved part -/
theorem stepList_length (sp : AttemptSpec) : (stepList sp).length = sp.nbg + sp.nsteps := by simp [stepList]

theorem stepList_at (sp : AttemptSpec) (idx : Nat) :
    (stepList sp)[idx]? = if idx < sp.nbg then some (true, idx)
      else if idx - sp.nbg < sp.nsteps then some (false, idx - sp.nbg) else none := by
  unfold stepList
  by_cases h : idx < sp.nbg
  · rw [getElem?_append_left (by simpa using h)]
    simp [h]
  · rw [getElem?_append_right (by simpa using h)]
    by_cases h2 : idx - sp.nbg < sp.nsteps <;> simp [h, h2]

theorem stepList_drop (sp : AttemptSpec) (idx : Nat) (bg : Bool) (i : Nat) (rest : List (Bool × Nat))
    (h : (stepList sp).drop idx = (bg, i) :: rest) :
    (bg = false → (i + 1 = sp.nsteps ↔ rest = [])) ∧ rest = (stepList sp).drop (idx + 1) ∧
    (bg = false → sp.nsteps > 0) ∧ (bg = true → sp.nsteps > 0 → rest ≠ []) := by
  have hrest : rest = (stepList sp).drop (idx + 1) := by
    have := congrArg (List.drop 1) h
    simpa [drop_drop, Nat.add_comm] using this.symm
  have hnil : rest = [] ↔ sp.nbg + sp.nsteps ≤ idx + 1 := by rw [hrest, drop_eq_nil_iff, stepList_length]
  have helem : (stepList sp)[idx]? = some (bg, i) := by
    have := congrArg List.head? h
    simpa [head?_drop] using this
  rw [stepList_at] at helem
  split at helem
  · cases helem
    exact ⟨nofun, hrest, nofun, fun _ hp hr => by rw [hnil] at hr; omega⟩
  · split at helem
    · cases helem
      exact ⟨fun _ => by rw [hnil]; omega, hrest, fun _ => by omega, nofun⟩
    · cases helem


theorem fold_specSteps_gen (ret : Option Retries) (n : Nat) (sp : AttemptSpec) (hn : n = sp.nsteps)
    (o : Option Indicator × Stats) (l : List (Bool × Nat)) (idx : Nat) (hl : (stepList sp).drop idx = l) :
    (specSteps sp idx l).1.foldl (obsStep ret n) o =
      match (specSteps sp idx l).2 with
      | .skipped => (some .skipped, { o.2 with skipped := o.2.skipped + 1 })
      | .none => if sp.nsteps > 0 ∧ l ≠ [] then (none, o.2) else o
      | _ => o := by
  subst hn
  induction l generalizing idx o with
  | nil => simp [specSteps]
  | cons s rest ih =>
    obtain ⟨bg, i⟩ := s
    obtain ⟨hlast, hrest, hown, hbgn⟩ := stepList_drop sp idx bg i rest hl
    simp only [specSteps]
    cases h : effRes sp idx bg i with
    | started => exact absurd h (effRes_ne_started sp idx bg i)
    | passed =>
      -- Started changes nothing; Passed clears the mark if this is the last own step
      simp only [foldl_cons, obsStep_stepEv, obsStep.stepObs]
      by_cases hi : (!bg && decide (i + 1 = sp.nsteps)) = true
      · simp only [Bool.and_eq_true, Bool.not_eq_true', decide_eq_true_eq] at hi
        obtain ⟨rfl, hi⟩ := hi
        have hnil := (hlast rfl).mp hi
        subst hnil
        simp [specSteps, hown rfl, hi]
      · -- not the last own step: if there are own steps at all, one of them follows
        have hne : sp.nsteps > 0 → rest ≠ [] := by
          cases bg with
          | true => exact hbgn rfl
          | false => exact fun _ hc => hi (by simpa using (hlast rfl).mpr hc)
        rw [if_neg hi, ih o (idx + 1) hrest.symm]
        cases hst : (specSteps sp (idx + 1) rest).2 <;> simp
        by_cases hp : sp.nsteps > 0
        · simp [hp, hne hp]
        · simp [hp]
    | _ => simp [obsStep_stepEv, obsStep.stepObs]


theorem fold_attempt_before_ok (ret : Option Retries) (n : Nat) (sp : AttemptSpec) (hn : n = sp.nsteps)
    (hb : (specBefore sp).2 = .none) (o : Option Indicator × Stats) :
    (specEvents sp).foldl (obsStep ret n) o =
      obsStep ret n
        ((specAfter sp).foldl (obsStep ret n)
          ((specSteps sp 0 (stepList sp)).2.deferred.foldl (obsStep ret n)
            ((specSteps sp 0 (stepList sp)).1.foldl (obsStep ret n) o))) .finished := by
  unfold specEvents specStop
  simp only [hb, foldl_append, foldl_cons, foldl_nil]
  have hstart : obsStep ret n o ScenEv.started = o := rfl
  rw [hstart]
  -- the events of a passing before hook change nothing
  rcases specBefore_cases sp with h | h | ⟨p, h⟩
  · rw [h]; rfl
  · rw [h]; rfl
  · rw [h] at hb; cases hb

/-- **A retried attempt** (a step fails with a retry left, no hook fails) leaves the scenario marked
    `Retried` and counts it as retried at most once. -/
theorem retried_attempt (cat : Catalog) (k : ScenKey) (ret : Option Retries) (sp : AttemptSpec) (wid : Nat) (s : Summ)
    (hn : cat.nsteps k = sp.nsteps) (hb : (specBefore sp).2 = .none) (haf : afterFailed sp = false)
    (bg : Bool) (i : Nat) (err : StepErr) (hstop : (specSteps sp 0 (stepList sp)).2 = .failed (stepEv bg i (.failed err)))
    (hret : isRetriedFailure ret err = true)
    (hk : s.handled.get k = none ∨ s.handled.get k = some .retried) :
    obs k (feedScen cat k ret s (runAttempt sp wid).events) =
      (some .retried, if (s.handled.get k).isNone then { s.scenarios with retried := s.scenarios.retried + 1 } else s.scenarios) := by
  rw [obs_feed, runAttempt_canonical, fold_attempt_before_ok ret _ sp hn hb,
    fold_specSteps_gen ret _ sp hn _ (stepList sp) 0 (by simp), hstop, afterFold, haf]
  simp only [Stop.deferred, foldl_cons, foldl_nil, Bool.false_eq_true, if_false, obsStep_stepEv]
  rcases hk with hk | hk <;> simp [obs, hk, obsStep, obsStep.stepObs, hret]

theorem attemptClass_spec (sp : AttemptSpec) (wid : Nat) (sc : Stats) :
    attemptClass sp wid sc =
      if (specStop sp).isFailure || afterFailed sp then { sc with failed := sc.failed + 1 }
      else if reasonOf (specStop sp) = .stepSkipped then { sc with skipped := sc.skipped + 1 }
      else { sc with passed := sc.passed + 1 } := by
  simp only [attemptClass, runAttempt_failed]

theorem counted_before_ok (cat : Catalog) (k : ScenKey) (ret : Option Retries) (sp : AttemptSpec) (wid : Nat)
    (s : Summ) (hn : cat.nsteps k = sp.nsteps) (hret : ∀ err, isRetriedFailure ret err = false)
    (hb : (specBefore sp).2 = .none)
    (hk : s.handled.get k = none ∨
      (s.handled.get k = some .retried ∧ ((specSteps sp 0 (stepList sp)).2 = .none → sp.nsteps > 0))) :
    obs k (feedScen cat k ret s (runAttempt sp wid).events) = (none, attemptClass sp wid s.scenarios) := by
  have hstopeq : specStop sp = (specSteps sp 0 (stepList sp)).2 := by
    unfold specStop; rw [hb]
  rw [obs_feed, runAttempt_canonical, fold_attempt_before_ok ret _ sp hn hb,
    fold_specSteps_gen ret _ sp hn _ (stepList sp) 0 (by simp), afterFold]
  rw [attemptClass_spec, hstopeq]
  have hobs : obs k s = (s.handled.get k, s.scenarios) := rfl
  rw [hobs]
  cases hst : (specSteps sp 0 (stepList sp)).2 with
  | failed ev =>
    obtain ⟨bg, i, e, rfl⟩ := specSteps_failed_shape sp _ _ ev hst
    simp only [Stop.deferred, foldl_cons, foldl_nil, obsStep_stepEv]
    cases haf : afterFailed sp <;>
      simp [Stop.isFailure, obsStep, obsStep.stepObs, HookRes.isFailed, hret]
  | beforeFailed ev => exact absurd hst (specSteps_not_beforeFailed sp _ _ ev)
  | skipped =>
    cases haf : afterFailed sp <;>
      simp [Stop.deferred, Stop.isFailure, reasonOf, obsStep, HookRes.isFailed]
  | none =>
    rcases hk with hk | ⟨hk, hown⟩
    · cases haf : afterFailed sp <;>
        simp [hk, Stop.deferred, Stop.isFailure, reasonOf, obsStep, HookRes.isFailed]
    · have hpos := hown hst
      have hne : stepList sp ≠ [] := ne_nil_of_length_pos (by rw [stepList_length]; omega)
      cases haf : afterFailed sp <;>
        simp [Stop.deferred, Stop.isFailure, reasonOf, obsStep, HookRes.isFailed, hpos, hne]

/-- **The last attempt after retries** (no retry left; its before hook passes; if every step passes the
    scenario has own steps) is counted exactly once in its class, and the `Retried` mark is cleared. -/
theorem final_attempt_after_retries (cat : Catalog) (k : ScenKey) (ret : Option Retries) (sp : AttemptSpec) (wid : Nat)
    (s : Summ) (hn : cat.nsteps k = sp.nsteps) (hret : ∀ err, isRetriedFailure ret err = false)
    (hb : (specBefore sp).2 = .none) (hown : (specSteps sp 0 (stepList sp)).2 = .none → sp.nsteps > 0)
    (hk : s.handled.get k = some .retried) :
    obs k (feedScen cat k ret s (runAttempt sp wid).events) = (none, attemptClass sp wid s.scenarios) :=
  counted_before_ok cat k ret sp wid s hn hret hb (Or.inr ⟨hk, hown⟩)

/-- **A scenario attempt with no retry left is counted exactly once, in the class of that attempt**
    (failed if a step, the before hook or the after hook failed; skipped if a step was skipped; passed
    otherwise) — for EVERY attempt the attempt model (C02) can produce, whatever else `Summarize` has seen,
    provided it holds no stale indicator for the scenario. Excluded: attempts with a retry left
    (findings F-C12a/b/c live there). -/
theorem single_attempt_counted_once (cat : Catalog) (k : ScenKey) (ret : Option Retries) (sp : AttemptSpec) (wid : Nat)
    (s : Summ) (hn : cat.nsteps k = sp.nsteps) (hret : ∀ err, isRetriedFailure ret err = false)
    (hk : s.handled.get k = none) :
    obs k (feedScen cat k ret s (runAttempt sp wid).events) = (none, attemptClass sp wid s.scenarios) := by
  by_cases hb : (specBefore sp).2 = .none
  · exact counted_before_ok cat k ret sp wid s hn hret hb (Or.inl hk)
  · -- the before hook failed: no steps, the deferred Hook-Failed event, then the after hook
    obtain ⟨p, hbe⟩ : ∃ p, specBefore sp = ([.hook .before .started], .beforeFailed (.hook .before (.failed p))) := by
      rcases specBefore_cases sp with h | h | h
      · exact absurd (by rw [h]) hb
      · exact absurd (by rw [h]) hb
      · exact h
    have hobs : obs k s = (none, s.scenarios) := by simp [obs, hk]
    rw [obs_feed, runAttempt_canonical, hobs]
    rw [attemptClass_spec]
    unfold specEvents specStop
    rw [hbe]
    simp only [foldl_append, foldl_cons, foldl_nil]
    rw [afterFold]
    cases haf : afterFailed sp <;>
      simp [Stop.deferred, Stop.isFailure, obsStep, HookRes.isFailed]


/-- an attempt description: (retry counter, outcome spec, id of the World it would create) -/
abbrev Att := Option Retries × AttemptSpec × Nat

/-- an attempt that is retried for the reason the property has in mind: a step fails with a retry left
    (and nothing else goes wrong: no hook fails — the histories of findings F-C12a/b are excluded) -/
structure RetriedOk (cat : Catalog) (k : ScenKey) (a : Att) : Prop where
  nsteps : cat.nsteps k = a.2.1.nsteps
  beforeOk : (specBefore a.2.1).2 = .none
  afterOk : afterFailed a.2.1 = false
  stepFails : ∃ bg i err, (specSteps a.2.1 0 (stepList a.2.1)).2 = .failed (stepEv bg i (.failed err)) ∧
    isRetriedFailure a.1 err = true

def feedAtts (cat : Catalog) (k : ScenKey) (s : Summ) (atts : List Att) : Summ :=
  atts.foldl (fun s a => feedScen cat k a.1 s (runAttempt a.2.1 a.2.2).events) s

theorem retried_chain (cat : Catalog) (k : ScenKey) (rs : List Att) (hrs : ∀ a ∈ rs, RetriedOk cat k a) (s : Summ)
    (hk : s.handled.get k = none ∨ s.handled.get k = some .retried) (hne : rs ≠ []) :
    obs k (feedAtts cat k s rs) =
      (some .retried, if (s.handled.get k).isNone then { s.scenarios with retried := s.scenarios.retried + 1 } else s.scenarios) := by
  induction rs generalizing s with
  | nil => exact absurd rfl hne
  | cons a rest ih =>
    obtain ⟨h1, h2, h3, bg, i, err, h4, h5⟩ := hrs a (by simp)
    have hstep := retried_attempt cat k a.1 a.2.1 a.2.2 s h1 h2 h3 bg i err h4 h5 hk
    simp only [feedAtts, foldl_cons]
    by_cases hr : rest = []
    · subst hr; simpa using hstep
    · obtain ⟨hk', hsc⟩ := Prod.mk.inj hstep
      have := ih (fun x hx => hrs x (by simp [hx])) _ (Or.inr hk') hr
      simp only [feedAtts] at this
      rw [this, hk', hsc]
      rfl

/-- **Scenario classification by the last attempt (proved part).** A scenario whose earlier attempts were
    retried because a step failed (no hook failure), and whose last attempt — no retry left — is any attempt
    of the C02 model (if there were retries: its before hook passes, and if all its steps pass it has own
    steps), is counted exactly ONCE, in the class of that last attempt, and at most once as retried.
    The excluded histories are exactly the patterns of findings F-C12a / F-C12b / F-C12c. -/
theorem scenario_counted_by_last_attempt (cat : Catalog) (k : ScenKey) (s : Summ) (rs : List Att) (last : Att)
    (hk : s.handled.get k = none) (hrs : ∀ a ∈ rs, RetriedOk cat k a)
    (hn : cat.nsteps k = last.2.1.nsteps) (hret : ∀ err, isRetriedFailure last.1 err = false)
    (hlast : rs ≠ [] → (specBefore last.2.1).2 = .none ∧
      ((specSteps last.2.1 0 (stepList last.2.1)).2 = .none → last.2.1.nsteps > 0)) :
    obs k (feedScen cat k last.1 (feedAtts cat k s rs) (runAttempt last.2.1 last.2.2).events) =
      (none, attemptClass last.2.1 last.2.2
        (if rs = [] then s.scenarios else { s.scenarios with retried := s.scenarios.retried + 1 })) := by
  by_cases hr : rs = []
  · subst hr
    simpa [feedAtts] using single_attempt_counted_once cat k last.1 last.2.1 last.2.2 s hn hret hk
  · have hchain := retried_chain cat k rs hrs s (Or.inl hk) hr
    obtain ⟨hk', hsc⟩ := Prod.mk.inj hchain
    obtain ⟨hb, hown⟩ := hlast hr
    rw [final_attempt_after_retries cat k last.1 last.2.1 last.2.2 _ hn hret hb hown hk', hsc]
    simp [hr, hk]


/-- non-vacuity: a first attempt whose second step panics with a retry left, then a passing last attempt:
    the hypotheses hold and the scenario is counted once as passed and once as retried -/
def flakyFirst : AttemptSpec :=
  { hasBefore := true, hasAfter := true, nbg := 1, nsteps := 2, init := .ok, before := .pass, after := .pass,
    bgOut := fun _ => .pass, stepOut := fun i => if i = 1 then .panic 4 else .pass }
def passingLast : AttemptSpec := { flakyFirst with stepOut := fun _ => .pass }

example : (specBefore flakyFirst).2 = .none ∧ afterFailed flakyFirst = false ∧
    (specSteps flakyFirst 0 (stepList flakyFirst)).2 = .failed (stepEv false 1 (.failed (.panic 4))) ∧
    isRetriedFailure (some ⟨0, 1⟩) (.panic 4) = true := by decide +kernel

example : obs kx (feedScen (catx 2) kx (some ⟨1, 0⟩) (feedAtts (catx 2) kx {} [(some ⟨0, 1⟩, flakyFirst, 7)])
      (runAttempt passingLast 8).events) =
    (none, { passed := 1, skipped := 0, failed := 0, retried := 1 }) := by decide +kernel


/-! ## The guard of the model's one truncated subtraction

`Summarize::handle_scenario` does `scenarios.skipped -= 1` when a `Hook::Failed` arrives for a scenario marked
`Skipped` — an arithmetic underflow in the code when `skipped = 0` (a panic with overflow checks, a wrap without),
a silent `0 - 1 = 0` in the model's `Nat`. Lemmas/SummarizeGuard.lean. -/

open Cuke.SummG in
/-- **No underflow.** On every stream that never has a second failed hook after a skipped step within one attempt
    (`OneFailedHookPerSkip`, a condition on the stream alone; every Runner stream satisfies it: a skipped step ends
    the attempt's steps, the After hook runs once, then Finished) the decrement is never reached with
    `skipped = 0`: the model's arithmetic is the code's arithmetic, for streams of any length and interleaving. -/
theorem summ_no_underflow (cat : Catalog) (evs : List Ev) (h : OneFailedHookPerSkip evs = true) :
    guardRun cat {} evs = true :=
  guardRun_from cat {} {} evs (Or.inr ginv2_init) h

open Cuke.SummG in
/-- … in particular on every stream in which no scenario path has two failed hooks at all (the guard the
    arbitrary-stream generator of the correspondence stays inside) -/
theorem summ_no_underflow_of_nodup (cat : Catalog) (evs : List Ev) (h : (hookFailedKeys evs).Nodup) :
    guardRun cat {} evs = true :=
  summ_no_underflow cat evs (ghost_of_nodup_from {} evs h (fun _ _ hc => by cases hc))

/-- the guard is not vacuous, and it is needed: after a skipped step, ONE failed hook is fine (a retried attempt may
    bring another skipped step and another failed hook), a SECOND one within the attempt reaches the decrement
    with nothing to subtract -/
example :
    Cuke.SummG.OneFailedHookPerSkip [.scen kx none (.step 0 .skipped), .scen kx none (.hook .after (.failed 1)), .scen kx none .finished,
      .scen kx none (.step 0 .skipped), .scen kx none (.hook .after (.failed 1)), .scen kx none .finished] = true ∧
    Cuke.SummG.guardRun (catx 1) {} [.scen kx none (.step 0 .skipped), .scen kx none (.hook .after (.failed 1)),
      .scen kx none (.hook .before (.failed 1))] = false ∧
    Cuke.SummG.OneFailedHookPerSkip [.scen kx none (.step 0 .skipped), .scen kx none (.hook .after (.failed 1)),
      .scen kx none (.hook .before (.failed 1))] = false := by decide

end Cuke.C12

