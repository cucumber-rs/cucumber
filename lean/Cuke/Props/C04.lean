import Cuke.Lemmas.Sched
import Cuke.Lemmas.SchedLts
import Cuke.Props.C06
import Cuke.Props.C05
import Cuke.Lemmas.SchedConserve
import Cuke.Lemmas.SchedSpin
import Cuke.Lemmas.SchedBound
/-!
# C04 — Every supplied scenario runs, nothing else runs, and the run always terminates
Model: `Cuke.newEntries`, `Cuke.insertInitial`, `Cuke.getBatch`, `Cuke.isFinished` and the idle branch
of the scheduler LTS (`idle`, `idleYield`, `idleSlept`, `idleContinue`; classes I, Q, R).
-/
namespace Cuke.C04
open Cuke List

/-- One queue entry per scenario of a delivered feature — top-level scenarios, then each rule's —
    and nothing else. -/
theorem newEntries_covers (c : SCfg) (f : SFeat) :
    (newEntries c f).map (·.key.scen) = f.scens.map (·.id) ++ f.rules.flatMap (fun r => r.scens.map (·.id)) := by
  simp [newEntries, featScenarios, map_flatMap, Function.comp_def]

/-- Inserting a feature's entries loses nothing and invents nothing: the queues afterwards hold exactly
    the old entries and the new ones. -/
theorem insertInitial_conserves (q : Queues) (ns nc : List Entry) :
    (insertInitial q ns nc).serial ++ (insertInitial q ns nc).conc ~ (q.serial ++ q.conc) ++ (ns ++ nc) :=
  SchedCons.insertInitial_perm q ns nc

/-- A retried scenario is re-queued (never dropped): the queues hold one more entry, with its id. -/
theorem insertRetried_conserves (q : Queues) (e : Entry) (now : Nat) :
    ((insertRetried q e now).serial ++ (insertRetried q e now).conc).map (·.id) ~ e.id :: (q.serial ++ q.conc).map (·.id) :=
  (SchedCons.insertRetried_entries q e now).map _

/-- `get` only hands out what is queued, and leaves the rest queued (C06.getBatch_conserves). -/
theorem get_conserves (ready : Entry → Bool) (ask : Option Nat) (q : Queues) :
    (getBatch ready ask q).1 ++ ((getBatch ready ask q).2.1.serial ++ (getBatch ready ask q).2.1.conc) ~
      q.serial ++ q.conc := C06.getBatch_conserves ready ask q

/-- Without fail-fast the loop ends only when the parser has finished AND both queues are empty:
    nothing supplied is left un-dispatched. -/
theorem exit_needs_empty_queues (done : Bool) (q : Queues) (h : isFinished done false q = true) :
    done = true ∧ q.serial = [] ∧ q.conc = [] := by
  simp [isFinished, Queues.isEmpty] at h
  exact h

/-- remaining work of an entry: attempts it can still cause -/
def weight (ret : Option RetryOptions) : Nat := (ret.map (·.retries.left)).getD 0 + 1

/-- Every retry strictly decreases the remaining work, so a scenario with budget `N` causes at most
    `N + 1` attempts (C05.attempts_values_and_bound) and the total number of dispatches is bounded. -/
theorem retry_weight_decreases (o o' : RetryOptions) (failed : Bool) (h : nextTry (some o) failed = some o') :
    weight (some o') < weight (some o) := by
  cases failed with
  | false => simp [nextTry] at h
  | true =>
    have := C05.retries_values o o' h
    simp [weight]; omega

/-- **No busy spin**: the LTS accepts `execute` re-entering its loop from the idle branch only after it
    has suspended (yielded, or slept for a retry delay); otherwise it records a class-I disagreement. -/
theorem idle_continue_requires_suspension (c : SCfg) (s : SState) (h : s.idleSuspended = false) :
    (stepL c s .idleContinue).dis.any (fun d => d.cls == .I) = true :=
  (SchedStep.any_cls_step (· == .I) c s .idleContinue).trans (by simp [SchedStep.fails, SchedStep.miss, h])

/-- …and only after the stream has really returned Pending since the idle branch was entered: a wait that
    blocks inside `execute` (the parser side is never polled meanwhile) is a class-I disagreement. -/
theorem idle_continue_requires_pending (c : SCfg) (s : SState) (h : s.polledIdle = false) :
    (stepL c s .idleContinue).dis.any (fun d => d.cls == .I) = true :=
  (SchedStep.any_cls_step (· == .I) c s .idleContinue).trans (by simp [SchedStep.fails, SchedStep.miss, h])

theorem idle_then_not_suspended (c : SCfg) (s : SState) (fin sleep : Bool) :
    (stepL c s (.idle fin sleep)).idleSuspended = false := by
  rw [SchedStep.stepL_eq]; rfl

theorem yield_suspends (c : SCfg) (s : SState) : (stepL c s .idleYield).idleSuspended = true := by
  rw [SchedStep.stepL_eq]; rfl

theorem slept_suspends (c : SCfg) (s : SState) : (stepL c s .idleSlept).idleSuspended = true := by
  rw [SchedStep.stepL_eq]; rfl

/-- The behaviour of the code BEFORE the repair of F-C04 — parser answers Pending, nothing running:
    `get` → idle (not finished, no delay) → `continue`, with no suspension in between — is rejected. -/
def spinCfg : SCfg :=
  { builderConc := none, cliConc := none, builderFF := false, cliFF := false, builderRetries := none,
    cliRetries := none, builderAfter := none, cliAfter := none, customWhich := false, durTable := [], feats := [] }

def spinLog : List Label :=
  [.pPend, .hookTake, .tx .started, .get1 1 (some 64) 0 0, .get2 2 (.cont (some 64)) [] false 0,
   .idle false false, .idleContinue, .get1 3 (some 64) 0 0]

theorem prefix_spin_rejected : (accept spinCfg spinLog).dis.any (fun d => d.cls == .I) = true := by
  decide +kernel

/-- with the yield in place (the stream returns Pending, the harness polls again, the yield completes)
    the same situation is accepted -/
theorem yield_loop_accepted :
    (accept spinCfg [.pPend, .hookTake, .tx .started, .get1 1 (some 64) 0 0, .get2 2 (.cont (some 64)) [] false 0,
      .idle false false, .idleYield, .poll, .idleContinue, .get1 3 (some 64) 0 0]).dis.isEmpty = true := by
  decide +kernel

/-- a wait that completes without ever suspending `execute` (a blocking sleep / a yield that does not
    yield) is rejected: the parser side would be starved for the whole wait -/
theorem blocking_wait_rejected :
    (accept spinCfg [.pPend, .hookTake, .tx .started, .get1 1 (some 64) 0 0, .get2 2 (.cont (some 64)) [] false 0,
      .idle false false, .idleYield, .idleContinue, .get1 3 (some 64) 0 0]).dis.any (fun d => d.cls == .I) = true := by
  decide +kernel

open Cuke.SchedInv

def idle1 (s : SState) : SState := ({ s with pos := s.pos + 1 } : SState).inPhase [.afterGet2] "idle branch"
def idle2 (s : SState) (fin : Bool) : SState := { idle1 s with phase := if fin then .exiting else .idle1 }
def idle3 (s : SState) (fin : Bool) : SState :=
  chk (idle2 s fin) ((idle2 s fin).running.isEmpty && (idle2 s fin).endedUnconsumed == 0 && (idle2 s fin).batch.isEmpty) .I
    "idle branch taken although something is running or runnable"
def idle4 (s : SState) (fin : Bool) : SState :=
  chk (idle3 s fin) (fin == isFinished (idle3 s fin).parserDone (idle3 s fin).slots.isBrk (idle3 s fin).q) .I
    s!"is_finished = {fin}, model {isFinished (idle3 s fin).parserDone (idle3 s fin).slots.isBrk (idle3 s fin).q}"

theorem idle_dis (c : SCfg) (s : SState) (fin sleep : Bool) : (stepL c s (.idle fin sleep)).dis = (idle4 s fin).dis := by
  cases fin <;> rfl

/-- **The loop is left only when there is nothing left to do, in every accepted run**: when `execute`
    takes its exit (`is_finished` reported true), nothing is running, finished-but-unconsumed or runnable,
    the parser has ended, and — unless fail-fast tripped — both queues of the model (= of the
    implementation, class Q) are empty: every scenario that was inserted has been handed out. -/
theorem lts_exit_only_when_done (c : SCfg) (pre suf : List Label) (sleep : Bool)
    (hg : Good (accept c (pre ++ Label.idle true sleep :: suf)) = true) :
    (accept c pre).running = [] ∧ (accept c pre).endedUnconsumed = 0 ∧ (accept c pre).batch = [] ∧
    (accept c pre).parserDone = true ∧
    ((accept c pre).slots.isBrk = false → (accept c pre).q.serial = [] ∧ (accept c pre).q.conc = []) := by
  have hgd : Good (stepL c (accept c pre) (.idle true sleep)) = true := by
    simp only [accept, foldl_append, foldl_cons] at hg
    exact Cuke.C06.good_foldl_mono c suf _ hg
  obtain ⟨-, ⟨⟨hr, he⟩, hb⟩, hfin⟩ := SchedExit.idle_good hgd
  have hfin := hfin.symm
  refine ⟨hr, he, hb, ?_, ?_⟩
  · unfold isFinished at hfin
    simp only [Bool.and_eq_true] at hfin
    exact hfin.1
  · intro hnb
    rw [hnb] at hfin
    exact (exit_needs_empty_queues _ _ hfin).2

/-! Two ghost logs accompany the replay (`Cuke.SchedCons.runG`): the scenario ids of every entry the runner creates
(`Features::insert` for a delivered feature, `insert_retried_scenario` for a granted retry) and the scenario ids of
every attempt whose END was seen. `Clean` = no disagreement of the classes R, Q, K, I. Lemmas/SchedConserve.lean. -/

open Cuke.SchedCons Cuke.SchedRetry in
/-- **Conservation at every moment of every run**: created ~ (queued ++ handed out ++ running) ++ ended, as
    multisets of scenario ids — nothing the parser delivered is dropped, nothing is invented, nothing runs twice
    for one entry. -/
theorem lts_attempts_conserved (c : SCfg) (ls : List Label) (hc : Clean (accept c ls) = true) :
    (runG c ls ({}, ([], []))).2.1 ~ scens (ents (accept c ls)) ++ (runG c ls ({}, ([], []))).2.2 := by
  have hst : (runG c ls ({}, ([], []))).1 = accept c ls := runG_state c ls _
  have := runG_cinv c ls ({}, ([], [])) cinv_init (by rw [hst]; exact hc)
  rw [hst] at this
  exact this.1

open Cuke.SchedCons Cuke.SchedRetry in
/-- **Every supplied scenario runs, nothing else runs**: when a clean run has nothing queued, handed out or
    running any more (what `lts_exit_only_when_done` shows at the exit without fail-fast), the attempts that ENDED are
    exactly the entries that were CREATED — every scenario of every delivered feature (`newEntries_covers`) once,
    plus one per granted retry; no scenario that was not handed to the runner, none twice for one entry. -/
theorem lts_all_created_ended (c : SCfg) (ls : List Label) (hc : Clean (accept c ls) = true)
    (hempty : ents (accept c ls) = []) :
    (runG c ls ({}, ([], []))).2.1 ~ (runG c ls ({}, ([], []))).2.2 := by
  have := lts_attempts_conserved c ls hc
  rw [hempty] at this
  simpa [scens] using this

/-- non-vacuity: the run with a retried attempt (C05.rlog) — scenario 1 is created twice (delivered, then the
    granted retry) and ends twice; at its exit nothing is held -/
example : Cuke.SchedCons.Clean (accept C05.rcfg C05.rlog) = true ∧ Cuke.SchedRetry.ents (accept C05.rcfg C05.rlog) = [] ∧
    (Cuke.SchedCons.runG C05.rcfg C05.rlog ({}, ([], []))).2 = ([1, 1], [1, 1]) := by decide +kernel

def allScens (c : SCfg) : List Nat := c.feats.flatMap Cuke.SchedSeq.scenIds

open Cuke.SchedSeq Cuke.SchedCount Cuke.SchedRetry in
/-- **The work of a run is bounded before it starts.** If every scenario of the catalog resolves to a retry budget of at
    most `N`, then in every run that is clean in both acceptor layers — however the parser delays its features, in whatever
    order attempts complete, whatever fails — at most `(number of scenarios) * (N + 1)` attempts are ever dispatched: every
    dispatched attempt is a different (scenario, `current`) pair with `current ≤ N` of a scenario of the catalog
    (`C05.lts_dispatches_distinct`, `C05.lts_dispatched_within_budget`). Together with `lts_exit_only_when_done` and the
    no-busy-spin lemmas this is the termination argument: finitely many attempts, each consumed once, and an idle loop that
    always suspends. -/
theorem lts_total_attempts_bounded (c : SCfg) (hwf : WF c) (ls : List Label) (hc : NClean (acceptN c ls) = true) (N : Nat)
    (hbud : ∀ ft ∈ c.feats, ∀ e0 ∈ newEntries c ft, ∀ o0, e0.ret = some o0 → o0.retries.left ≤ N) :
    (dispatched c ls).length ≤ (allScens c).length * (N + 1) := by
  have hnd := Cuke.C05.lts_dispatches_distinct c hwf ls hc
  have hsub : dispatched c ls ⊆ (allScens c).flatMap (fun x => (List.range (N + 1)).map (fun k => (x, k))) := by
    intro p hp
    obtain ⟨x, k⟩ := p
    have hk := Cuke.C05.lts_dispatched_within_budget c ls hc x k N hp (fun ft hft e0 he0 _ o0 ho => hbud ft hft e0 he0 o0 ho)
    rcases dispatched_from_batch c ls _ (x, k) hp with h | ⟨pre, suf, hsplit, e, he, hsc⟩
    · cases h
    · subst hsplit
      rw [acceptN, foldl_append] at hc
      have hd := nclean_base (nclean_foldl_mono c suf _ hc)
      rw [show (pre.foldl (stepN c) {}).base = accept c pre from acceptN_base c pre] at hd he
      have hr := Cuke.C05.lts_retry_lineage c pre (by simp [SchedRetry.GoodRQ, hd])
      obtain ⟨ft, hft, hxs⟩ := Cuke.SchedFin.owner c hwf _ hr e (by simp only [ents, mem_append]; exact Or.inl (Or.inr he))
      have hx : e.key.scen = x := congrArg Prod.fst hsc
      simp only [mem_flatMap, mem_map, mem_range, allScens]
      refine ⟨x, ⟨ft, (feat?_spec c _ ft hft).1, hx ▸ hxs⟩, k, by omega, rfl⟩
  have hlen := hnd.length_le_of_subset hsub
  have hcount : ((allScens c).flatMap (fun x => (List.range (N + 1)).map (fun k => (x, k)))).length = (allScens c).length * (N + 1) := by
    induction allScens c with
    | nil => simp
    | cons a l ih => simp only [flatMap_cons, length_append, length_map, length_range, ih, length_cons]; rw [Nat.add_mul]; omega
  omega

/-- non-vacuity: one scenario with a budget of 2: at most 3 attempts; the example run dispatches 2 -/
example : (Cuke.SchedCount.dispatched Cuke.C05.rcfg Cuke.C05.rlog).length = 2 ∧ (allScens Cuke.C05.rcfg).length * (2 + 1) = 3 := by
  decide +kernel

open Cuke.SchedSpin in
/-- **Every idle iteration hands control back.** In every log replayed without a disagreement, `execute` re-enters
    its loop from the idle branch at most as often as the stream returned `Pending` while it sat there (`poll`
    boundaries): between two idle iterations the executor — hence `join`, hence the parser side and the sleeper —
    got a turn. No bound on the length of the run. -/
theorem lts_idle_iteration_needs_poll (c : SCfg) (ls : List Label) (hc : SchedOrd.Clean0 (accept c ls) = true) :
    ls.countP isIdleContinue ≤ ls.countP isPoll := by
  have h := (sinv_accept c ls hc).b
  rw [count_eq] at h
  exact Nat.le_trans (Nat.le_add_right _ _) h

open Cuke.SchedSpin in
/-- **Every consumed completion is an attempt that ended.** -/
theorem lts_consumed_le_ended (c : SCfg) (ls : List Label) (hc : SchedOrd.Clean0 (accept c ls) = true) :
    ls.countP isCons + (accept c ls).endedUnconsumed = ls.countP isEndA := by
  have h := (sinv_accept c ls hc).c
  rw [count_eq] at h
  exact h

open Cuke.SchedSpin in
/-- **The loop cannot spin.** In every log replayed without a disagreement the number of loop iterations of `execute`
    (returns of `features.get`) is at most `1 + polls + ended attempts`: every iteration beyond the first either
    consumed the completion of an attempt, or went through the idle branch and suspended until the stream was polled
    again. With `lts_total_attempts_bounded` (finitely many attempts) this is the termination argument in one line: the
    work per poll is bounded, and only polls — turns of the executor in which the parser, a sleeper or user code made
    progress — let the loop go round again. -/
theorem lts_loop_iterations_bounded (c : SCfg) (ls : List Label) (hc : SchedOrd.Clean0 (accept c ls) = true) :
    ls.countP isGet2 ≤ 1 + ls.countP isPoll + ls.countP isEndA := by
  have hi := sinv_accept c ls hc
  have ha := hi.a
  have hb := hi.b
  have hk := hi.c
  rw [count_eq] at ha hb hk
  have hs := slack_le_one (accept c ls).phase
  simp only at ha hb hk
  omega

/-- non-vacuity: the accepted yield loop above has 2 iterations, 1 poll, 1 idle continue -/
example :
    let ls : List Label := [.pPend, .hookTake, .tx .started, .get1 1 (some 64) 0 0, .get2 2 (.cont (some 64)) [] false 0,
      .idle false false, .idleYield, .poll, .idleContinue, .get1 3 (some 64) 0 0, .get2 4 (.cont (some 64)) [] false 0]
    SchedOrd.Clean0 (accept spinCfg ls) = true ∧ ls.countP SchedSpin.isGet2 = 2 ∧ ls.countP SchedSpin.isPoll = 1 ∧
      ls.countP SchedSpin.isIdleContinue = 1 := by
  decide +kernel

open Cuke.SchedSpin Cuke.SchedSeq Cuke.SchedCount in
/-- **Every attempt that ended was dispatched**: in a run clean in both acceptor layers, `#END + #in flight = #dispatched`. -/
theorem lts_ended_le_dispatched (c : SCfg) (ls : List Label) (hc : NClean (acceptN c ls) = true) :
    ls.countP isEndA + (accept c ls).running.length = (dispatched c ls).length :=
  Cuke.SchedBound.ended_le_dispatched c ls hc

open Cuke.SchedSpin Cuke.SchedSeq Cuke.SchedCount in
/-- **The loop of `execute` goes round at most `1 + polls + scenarios × (N + 1)` times** — for every configuration with
    retry budgets ≤ N and every log, of any length, replayed without a disagreement: apart from a number of iterations
    that is fixed BEFORE the run starts (one per attempt that can ever exist, plus one), the loop only goes round again
    after the stream returned `Pending` and was polled again — i.e. after the executor gave the parser, a sleeper or
    user code a turn. So the stream ends after finitely many polls once those have completed, and it never spins. -/
theorem lts_iterations_bounded_before_the_run (c : SCfg) (hwf : WF c) (ls : List Label)
    (hc : NClean (acceptN c ls) = true) (N : Nat)
    (hbud : ∀ ft ∈ c.feats, ∀ e0 ∈ newEntries c ft, ∀ o0, e0.ret = some o0 → o0.retries.left ≤ N) :
    ls.countP isGet2 ≤ 1 + ls.countP isPoll + (allScens c).length * (N + 1) := by
  have hc0 : SchedOrd.Clean0 (accept c ls) = true := by
    simp only [NClean, Bool.and_eq_true] at hc
    have := hc.1
    rwa [acceptN_base] at this
  have h1 := lts_loop_iterations_bounded c ls hc0
  have h2 := lts_ended_le_dispatched c ls hc
  have h3 := lts_total_attempts_bounded c hwf ls hc N hbud
  omega

/-- non-vacuity: `C05.rlog` (one scenario, budget 2): 3 iterations, no poll, bound 1 + 0 + 1 × 3 -/
example : (Cuke.C05.rlog.countP SchedSpin.isGet2, Cuke.C05.rlog.countP SchedSpin.isPoll, (allScens Cuke.C05.rcfg).length) = (3, 0, 1) := by
  decide +kernel

end Cuke.C04
